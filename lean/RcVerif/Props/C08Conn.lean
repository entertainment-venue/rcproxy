import RcVerif.Props.C08
import RcVerif.Lemmas.ConnIn
/-
  C08 on the real buffering path. `Props/C08.lean` proves framing independent of segmentation for a read loop
  over "the unconsumed bytes". Here that abstraction is discharged: the loop as the code runs it - `conn.Peek(0)`
  gluing the pooled inbound ring (`elastic.RingBuffer`: the leftover of earlier reads) and the event loop's read
  buffer (the fresh bytes), `conn.Discard(consumed)`, and the store of the unconsumed rest at the end of the
  read event (`Model/ConnIn.lean`) - is a refinement of that abstract loop, for every sequence of chunks, every
  ring state (wrap-around, growth, a ring returned to the pool and taken again) the history produced
  (`C08_conn_drain`, `C08_conn_feed`, `C08_conn_feedAll`, `C08_conn_stream`; the refusal and reset branches outright:
  `C08_conn_peek_total`, `C08_conn_discard_total`). Second half: two connections on one ring pool (`Two`, its
  abstraction `AbsTwo`, the simulation `two_step`): `C08_conn_interleaved`.
-/
namespace RcVerif.Props.C08
open RcVerif RcVerif.Elastic RcVerif.ConnIn RcVerif.CDecode
open RcVerif.Lemmas.ElasticBuf RcVerif.Lemmas.ConnIn RcVerif.Lemmas.Decode

/-- the decode loop over `Peek` / `Discard` is the abstract loop over the connection's view -/
theorem C08_conn_drain (slot : Bytes → Nat) (limit : Nat) :
    ∀ (fuel : Nat) (pool : Pool) (c : InConn), PInv pool → EInv c.inb →
      let r := ConnIn.drain goTables slot limit fuel pool c
      let a := drain slot limit fuel c.view
      r.1 = a.1 ∧ r.2.2.2 = a.2.2 ∧ PInv r.2.1 ∧ EInv r.2.2.1.inb ∧
      (a.2.2 = false → r.2.2.1.view = a.2.1) ∧ (c.buf = [] → r.2.2.1.buf = []) := by
  intro fuel
  induction fuel with
  | zero => intro pool c hp he; exact ⟨rfl, rfl, hp, he, fun _ => rfl, id⟩
  | succ fuel ih =>
    intro pool c hp he
    have hpk : c.peek 0 = some c.view := peek_spec c he 0 (Int.natCast_nonneg _)
    cases hd : decode goTables slot limit c.view with
    | incomplete =>
      simp only [ConnIn.drain, drain, hpk, hd]
      exact ⟨trivial, trivial, hp, he, id, id⟩
    | invalid | panic =>
      simp only [ConnIn.drain, drain, hpk, hd]
      exact ⟨trivial, trivial, hp, he, fun h => Bool.noConfusion h, id⟩
    | ok m n =>
      obtain ⟨name, args, t, hv, _, hn, _⟩ := decode_ok goTables slot limit c.view m n hd
      have hpos : 0 < n := by rw [hn]; exact encodeCmd_length_pos name args
      have hle : n ≤ c.view.length := by rw [hv, hn]; simp
      obtain ⟨d1, d2, d3, d4⟩ := discard_spec pool c hp he n hpos hle
      obtain ⟨i1, i2, i3, i4, i5, i6⟩ := ih (c.discard pool (n : Int)).1 (c.discard pool (n : Int)).2.1 d1 d2
      rw [d3] at i1 i2 i5
      simp only [ConnIn.drain, drain, hpk, hd]
      exact ⟨by rw [i1], i2, i3, i4, i5, fun hb => i6 (d4 hb)⟩

/-- one readable event: the requests handed to the handler, whether the connection is closed, and - when it is
    not - the leftover, are those of the abstract loop on `leftover ++ chunk`; the leftover is in the ring -/
theorem C08_conn_feed (slot : Bytes → Nat) (limit : Nat) (pool : Pool) (c : InConn) (chunk : Bytes)
    (hp : PInv pool) (he : EInv c.inb) (hb : c.buf = []) :
    let r := ConnIn.feed goTables slot limit pool c chunk
    let a := feed slot limit c.view chunk
    r.1 = a.1 ∧ r.2.2.2 = a.2.2 ∧ PInv r.2.1 ∧ EInv r.2.2.1.inb ∧
    (a.2.2 = false → r.2.2.1.view = a.2.1 ∧ r.2.2.1.buf = []) := by
  have hview : ({ c with buf := chunk } : InConn).view = c.view ++ chunk := by
    rw [InConn.view, InConn.view, hb, List.append_nil]
  obtain ⟨i1, i2, i3, i4, i5, _⟩ :=
    C08_conn_drain slot limit (({ c with buf := chunk } : InConn).view.length + 1) pool { c with buf := chunk } hp he
  simp only [ConnIn.feed, feed]
  rw [hview] at i1 i2 i3 i4 i5 ⊢
  generalize ConnIn.drain goTables slot limit _ pool _ = r at i1 i2 i3 i4 i5 ⊢
  obtain ⟨ms, pool', c', closed⟩ := r
  cases closed with
  | true => exact ⟨i1, i2, i3, i4, fun h => nomatch i2.trans h⟩
  | false =>
    obtain ⟨s1, s2, s3, s4⟩ := store_spec _ _ i3 i4
    exact ⟨i1, i2, s1, s2, fun h => ⟨s3.trans (i5 h), s4⟩⟩

theorem C08_conn_feedAll (slot : Bytes → Nat) (limit : Nat) (chunks : List Bytes) :
    ∀ (pool : Pool) (c : InConn), PInv pool → EInv c.inb → c.buf = [] →
      let r := ConnIn.feedAll goTables slot limit pool c chunks
      let a := feedAll slot limit c.view chunks
      r.1 = a.1 ∧ r.2.2.2 = a.2.2 ∧ (a.2.2 = false → r.2.2.1.view = a.2.1) := by
  induction chunks with
  | nil => intro pool c _ _ _; exact ⟨rfl, rfl, fun _ => rfl⟩
  | cons chunk cs ih =>
    intro pool c hp he hb
    obtain ⟨f1, f2, f3, f4, f5⟩ := C08_conn_feed slot limit pool c chunk hp he hb
    simp only [ConnIn.feedAll, feedAll]
    generalize ConnIn.feed goTables slot limit pool c chunk = r at f1 f2 f3 f4 f5 ⊢
    generalize feed slot limit c.view chunk = a at f1 f2 f5 ⊢
    obtain ⟨ms, pool', c', closed⟩ := r
    obtain ⟨ms', left, closed'⟩ := a
    obtain rfl : ms = ms' := f1
    obtain rfl : closed = closed' := f2
    cases closed with
    | true => exact ⟨rfl, rfl, nofun⟩
    | false =>
      obtain ⟨rfl, v2⟩ := f5 rfl
      obtain ⟨i1, i2, i3⟩ := ih pool' c' f3 f4 v2
      exact ⟨congrArg (ms ++ ·) i1, i2, i3⟩

/-- **C08 on the connection**: for every pipeline of valid requests and EVERY way of cutting its bytes into read
    events, a fresh connection (empty inbound ring, empty ring pool) hands the handler exactly the requests, in
    order, is not closed, and ends with nothing left over - through `Peek`, `Discard` and the pooled ring -/
theorem C08_conn_stream (slot : Bytes → Nat) (limit : Nat) (rs : List Req) (hrs : ∀ r ∈ rs, r.Ok)
    (chunks : List Bytes) (h : chunks.flatten = stream rs) :
    let r := ConnIn.feedAll goTables slot limit {} {} chunks
    r.1 = rs.map (Req.msg slot limit) ∧ r.2.2.2 = false ∧ r.2.2.1.view = [] := by
  obtain ⟨i1, i2, i3⟩ := C08_conn_feedAll slot limit chunks {} {} pinv_empty einv_empty rfl
  have hv : ({} : InConn).view = [] := rfl
  rw [hv, C08_stream slot limit rs hrs chunks h] at i1 i2 i3
  exact ⟨i1, i2, i3 rfl⟩

/-- the error branches of the two primitives, stated outright: `Peek(n)` is refused exactly when `n` exceeds what
    is buffered (and returns the first `n` bytes of leftover ++ fresh otherwise); `Discard(n)` with `n` outside
    `1 .. buffered` drops everything and reports how much that was -/
theorem C08_conn_peek_total (c : InConn) (he : EInv c.inb) (n : Int) :
    (n > (c.view.length : Int) ∧ c.peek n = none) ∨
    (n ≤ (c.view.length : Int) ∧ c.peek n = some (if n ≤ 0 then c.view else c.view.take n.toNat)) := by
  by_cases hn : n ≤ (c.view.length : Int)
  · exact Or.inr ⟨hn, peek_spec c he n hn⟩
  · exact Or.inl ⟨Int.not_le.mp hn, (peek_none_iff c he n).mpr (Int.not_le.mp hn)⟩

theorem C08_conn_discard_total (pool : Pool) (c : InConn) (hp : PInv pool) (he : EInv c.inb) (n : Int) :
    (c.discard pool n).2.1.view = (if n ≤ 0 ∨ n > (c.view.length : Int) then [] else c.view.drop n.toNat) := by
  by_cases h : n ≤ 0 ∨ n > (c.view.length : Int)
  · rw [if_pos h]; exact (discard_reset_spec pool c hp he n h).2.2.1
  · obtain ⟨h1, h2⟩ := not_or.mp h
    obtain ⟨k, rfl⟩ := Int.eq_ofNat_of_zero_le (Int.le_of_lt (Int.not_le.mp h1))
    rw [if_neg h, Int.toNat_natCast]
    exact (discard_spec pool c hp he k (Int.natCast_pos.mp (Int.not_le.mp h1)) (Int.ofNat_le.mp (Int.not_lt.mp h2))).2.2.1

/-! ### two connections, one ring pool, any interleaving of their read events -/

structure Two where
  pool : Pool := {}
  c1 : InConn := {}
  c2 : InConn := {}
  closed1 : Bool := false
  closed2 : Bool := false
  msgs1 : List CMsg := []
  msgs2 : List CMsg := []

/-- an event of the first (`false`) or the second (`true`) connection: a read event with a chunk, or (`none`) the
    client goes away - `releaseTCP` hands its inbound ring, leftover and all, back to the pool. A closed
    connection reads no more -/
def Two.step (slot : Bytes → Nat) (limit : Nat) (t : Two) (ev : Bool × Option Bytes) : Two :=
  if ev.1 then
    if t.closed2 then t
    else match ev.2 with
      | some chunk =>
        let r := ConnIn.feed goTables slot limit t.pool t.c2 chunk
        { t with pool := r.2.1, c2 := r.2.2.1, closed2 := r.2.2.2, msgs2 := t.msgs2 ++ r.1 }
      | none =>
        let k := t.c2.close t.pool
        { t with pool := k.1, c2 := k.2, closed2 := true }
  else
    if t.closed1 then t
    else match ev.2 with
      | some chunk =>
        let r := ConnIn.feed goTables slot limit t.pool t.c1 chunk
        { t with pool := r.2.1, c1 := r.2.2.1, closed1 := r.2.2.2, msgs1 := t.msgs1 ++ r.1 }
      | none =>
        let k := t.c1.close t.pool
        { t with pool := k.1, c1 := k.2, closed1 := true }

/-- the same history over two independent "unconsumed bytes" loops -/
structure AbsTwo where
  v1 : Bytes := []
  v2 : Bytes := []
  closed1 : Bool := false
  closed2 : Bool := false
  msgs1 : List CMsg := []
  msgs2 : List CMsg := []

def AbsTwo.step (slot : Bytes → Nat) (limit : Nat) (a : AbsTwo) (ev : Bool × Option Bytes) : AbsTwo :=
  if ev.1 then
    if a.closed2 then a
    else match ev.2 with
      | some chunk =>
        let r := feed slot limit a.v2 chunk
        { a with v2 := r.2.1, closed2 := r.2.2, msgs2 := a.msgs2 ++ r.1 }
      | none => { a with closed2 := true }
  else
    if a.closed1 then a
    else match ev.2 with
      | some chunk =>
        let r := feed slot limit a.v1 chunk
        { a with v1 := r.2.1, closed1 := r.2.2, msgs1 := a.msgs1 ++ r.1 }
      | none => { a with closed1 := true }

/-- what relates the two: same requests, same closed flags, and - for a connection still open - its view is the
    abstract leftover, held entirely in its ring; the pool and both rings are well-formed -/
structure TwoRel (t : Two) (a : AbsTwo) : Prop where
  pool : PInv t.pool
  e1 : EInv t.c1.inb
  e2 : EInv t.c2.inb
  m1 : t.msgs1 = a.msgs1
  m2 : t.msgs2 = a.msgs2
  f1 : t.closed1 = a.closed1
  f2 : t.closed2 = a.closed2
  o1 : a.closed1 = false → t.c1.view = a.v1 ∧ t.c1.buf = []
  o2 : a.closed2 = false → t.c2.view = a.v2 ∧ t.c2.buf = []

theorem two_step (slot : Bytes → Nat) (limit : Nat) (t : Two) (a : AbsTwo) (h : TwoRel t a)
    (ev : Bool × Option Bytes) : TwoRel (t.step slot limit ev) (a.step slot limit ev) := by
  obtain ⟨who, ev⟩ := ev
  unfold Two.step AbsTwo.step
  cases who with
  | true =>
    rw [if_pos rfl, if_pos rfl, h.f2]
    cases hc : a.closed2 with
    | true => exact h
    | false =>
      rw [if_neg Bool.false_ne_true, if_neg Bool.false_ne_true]
      cases ev with
      | some chunk =>
        obtain ⟨v, b⟩ := h.o2 hc
        obtain ⟨f1, f2, f3, f4, f5⟩ := C08_conn_feed slot limit t.pool t.c2 chunk h.pool h.e2 b
        rw [v] at f1 f2 f5
        exact ⟨f3, h.e1, f4, h.m1, congr (congrArg _ h.m2) f1, h.f1, f2, h.o1, f5⟩
      | none =>
        obtain ⟨r1, r2, _⟩ := ering_release_spec t.pool t.c2.inb h.pool h.e2
        exact ⟨r1, h.e1, r2, h.m1, h.m2, h.f1, rfl, h.o1, nofun⟩
  | false =>
    rw [if_neg Bool.false_ne_true, if_neg Bool.false_ne_true, h.f1]
    cases hc : a.closed1 with
    | true => exact h
    | false =>
      rw [if_neg Bool.false_ne_true, if_neg Bool.false_ne_true]
      cases ev with
      | some chunk =>
        obtain ⟨v, b⟩ := h.o1 hc
        obtain ⟨f1, f2, f3, f4, f5⟩ := C08_conn_feed slot limit t.pool t.c1 chunk h.pool h.e1 b
        rw [v] at f1 f2 f5
        exact ⟨f3, f4, h.e2, congr (congrArg _ h.m1) f1, h.m2, f2, h.f2, f5, h.o2⟩
      | none =>
        obtain ⟨r1, r2, _⟩ := ering_release_spec t.pool t.c1.inb h.pool h.e1
        exact ⟨r1, r2, h.e2, h.m1, h.m2, rfl, h.f2, nofun, h.o2⟩

/-- **two connections sharing the ring pool**: however their read events interleave - and whenever one of them
    goes away, even in the middle of a request, its ring going back to the pool with the leftover in it - each
    connection hands the handler exactly what it would alone: rings travel between them through the pool without
    carrying a byte across -/
theorem C08_conn_interleaved (slot : Bytes → Nat) (limit : Nat) (evs : List (Bool × Option Bytes)) :
    TwoRel (evs.foldl (Two.step slot limit) {}) (evs.foldl (AbsTwo.step slot limit) {}) := by
  have h0 : TwoRel {} {} :=
    ⟨pinv_empty, einv_empty, einv_empty, rfl, rfl, rfl, rfl,
     fun _ => ⟨rfl, rfl⟩, fun _ => ⟨rfl, rfl⟩⟩
  generalize ({} : Two) = t at h0 ⊢
  generalize ({} : AbsTwo) = a at h0 ⊢
  induction evs generalizing t a with
  | nil => exact h0
  | cons ev rest ih => exact ih _ _ (two_step slot limit t a h0 ev)

/- non-vacuity: the first client sends half a request and goes away; the second one's request, cut in two,
   travels through the ring the first one gave back - kernel-evaluated -/
example :
    let ping : Bytes := (⟨[112, 105, 110, 103], []⟩ : Req).enc
    let t := [(false, some (ping.take 5)), (false, none), (true, some (ping.take 6)), (true, some (ping.drop 6))].foldl
      (Two.step goSlot 1000) {}
    t.msgs1 = [] ∧ t.msgs2.map (·.type) = [goTables.cPing] ∧ t.closed2 = false ∧ t.c2.view = [] := by
  decide +kernel

/- non-vacuity: "GET a" then "PING", cut inside the first request and again inside the second: the leftover
   travels through the ring twice; kernel-evaluated -/
example :
    let r1 : Req := ⟨[71, 69, 84], [[97]]⟩
    let r2 : Req := ⟨[112, 105, 110, 103], []⟩
    let s := stream [r1, r2]
    let r := ConnIn.feedAll goTables goSlot 1000 {} {} [s.take 7, (s.drop 7).take 20, s.drop 27]
    r.1.map (·.type) = [7, goTables.cPing] ∧ r.2.2.2 = false ∧ r.2.2.1.view = [] := by
  decide +kernel

end RcVerif.Props.C08
