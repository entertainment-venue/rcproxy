import RcVerif.Props.C04
/-
  C20 — with replica reads enabled, a read on a slot whose master has several
  healthy replicas may be served by EVERY one of them: the list handed to the
  random pick is the whole list of healthy replicas, and the pick returns the
  replica at the drawn index. Writes still go to the master.
  (Uniformity of `math/rand` is assumed, not modelled.)
  `C20_monitor_*`: what a cycle of `Pool.monitor` does to a replica's auto-ban flag.
-/
namespace RcVerif.Props.C20
open RcVerif RcVerif.Route

/-- a read request type: below the write marker and not a cursor scan -/
def IsRead (ty : Nat) : Prop :=
  ¬ ty > goTables.cWriteStart ∧ ty ≠ goTables.cHscan ∧ ty ≠ goTables.cSscan ∧ ty ≠ goTables.cZscan

/-- the candidate list IS the list of healthy replicas (in table order) -/
theorem C20_candidates (hasPool : Bytes → Bool) (rs : RSet) :
    candidates hasPool rs = rs.slaves.filter hasPool := rfl

/-- the pick is exactly the element at the drawn index: uniform draws give a uniform spread -/
theorem C20_pick (hasPool : Bytes → Bool) (ty : Nat) (rs : RSet) (h : IsRead ty)
    (draw : Nat) (hd : draw < (candidates hasPool rs).length) :
    route goTables false hasPool ty rs draw = ((candidates hasPool rs)[draw], true) := by
  unfold route
  rw [C04.masterOnly_eq_false.mpr ⟨rfl, h⟩]
  simp [List.getElem?_eq_getElem hd]

/-- every healthy replica is the result of the draw that points at it -/
theorem C20_every_replica_reachable (hasPool : Bytes → Bool) (ty : Nat) (rs : RSet) (h : IsRead ty)
    (a : Bytes) (ha : a ∈ rs.slaves) (hp : hasPool a = true) :
    ∃ draw, draw < (candidates hasPool rs).length ∧
      route goTables false hasPool ty rs draw = (a, true) := by
  have hm : a ∈ candidates hasPool rs := List.mem_filter.mpr ⟨ha, hp⟩
  obtain ⟨i, hi, he⟩ := List.getElem_of_mem hm
  exact ⟨i, hi, by rw [C20_pick hasPool ty rs h i hi, he]⟩

/-- distinct draws reach distinct positions: with n healthy replicas all n are used -/
theorem C20_spread (hasPool : Bytes → Bool) (ty : Nat) (rs : RSet) (h : IsRead ty) :
    ∀ i, i < (candidates hasPool rs).length →
      (route goTables false hasPool ty rs i).1 = (candidates hasPool rs)[i]! := by
  intro i hi
  rw [C20_pick hasPool ty rs h i hi]
  simp [hi]

/-- writes, scans and scripts are unaffected: always the master -/
theorem C20_writes_to_master (disableSlave : Bool) (hasPool : Bytes → Bool) (ty : Nat) (rs : RSet)
    (draw : Nat) (h : ty > goTables.cWriteStart) :
    route goTables disableSlave hasPool ty rs draw = (rs.master, false) :=
  C04.C04_master_when_required disableSlave hasPool ty rs draw (.inr (.inl h))

/- non-vacuity: GET (type 7) with three healthy replicas, draws 0,1,2 reach all three -/
example :
    let rs : RSet := { master := [109], slaves := [[97], [98], [99]] }
    (List.range 3).map (fun d => (route goTables false (fun _ => true) 7 rs d).1) = [[97], [98], [99]] := by
  decide +kernel

example : IsRead 7 := by unfold IsRead; decide

/-- a replica that answers its health probe is readmitted: the monitor clears its auto-ban flag whatever it was,
    so `route` (which skips a flagged pool once its lift time has passed) picks it up again -/
theorem C20_monitor_readmits (probe2 : Bool) : RcVerif.Route.monitorCycle true probe2 = false := by
  simp [RcVerif.Route.monitorCycle]

theorem C20_monitor_second_probe : RcVerif.Route.monitorCycle false true = false := rfl

theorem C20_monitor_bans_dead : RcVerif.Route.monitorCycle false false = true := rfl

end RcVerif.Props.C20
