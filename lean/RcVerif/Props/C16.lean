import RcVerif.Props.C09
/-
  C16 — a timed-out request gets exactly one timeout error, in its pipeline position; a backend reply
  that arrives later is discarded; the connection stays usable.

  * `C16_expiry_completes`: the expiry scan completes every request that has an unanswered fragment with
    a pending deadline with the timeout error and marks ALL its fragments done (split requests: once,
    whichever fragment's deadline fires first);
  * `C16_late_reply_discarded`: whatever redis answers for such a fragment later is dropped and changes
    nothing;
  * exactly once, in pipeline position, connection still usable: the invariants of C01 and C09 hold for
    ALL histories, expiry events included (`C16_position_and_once`): the error is delivered as the reply
    of that request number, replies before and after it keep their places, and nothing stays stuck at
    the head of the queue;
  * `C16_others_untouched`, `C16_later_deadlines_stay`, `C16_all_passed`: a request none of whose deadlines has passed
    keeps its state, the later deadlines stay pending in order, and with `n` at least their number all have passed.
  Real clocks are not modelled: `expire n` is "the `n` earliest deadlines of still unanswered fragments have passed".
-/
namespace RcVerif.Props.C16
open RcVerif RcVerif.Sim RcVerif.Merge RcVerif.Lemmas.SimInv RcVerif.Props.C01

/-- one entry of the expiry scan (`msgTimeout` on one fragment whose deadline has passed) -/
def tstep (S : Strs) (s : State) (f : FragRef) : State :=
  match f with
  | .frag mi slot =>
    match s.req mi with
    | none => s
    | some r =>
      match getFrag r.m slot with
      | none => s
      | some fr =>
        if fr.done then s
        else
          let m1 : MMsg := { r.m with frags := r.m.frags.map (fun x => if x.done then x else { x with err := S.errTimeout, done := true }) }
          let m2 : MMsg := { m1 with err := S.errTimeout, rspBody := S.errTimeout, fragDone := m1.frags.length, done := true }
          flushClient (s.updReq mi (fun r => { r with m := m2 })) r.owner
  | _ => s

/-- the request was completed by a timeout: done, answered with the timeout error, every fragment done -/
def TimedOut (S : Strs) (r : Req) : Prop :=
  r.m.done = true ∧ r.m.rspBody = S.errTimeout ∧ r.m.err = S.errTimeout ∧ ∀ x ∈ r.m.frags, x.done = true

/-- `tstep` is the scan step `failStep` with the timeout completion -/
theorem tstep_eq (S : Strs) : tstep S = failStep (timedOutMsg S) := rfl

theorem fold_times_out (S : Strs) (ts : List FragRef) (s : State) (mi : Nat) (r : Req)
    (hr : s.msgs[mi]? = some r) :
    (TimedOut S r → (ts.foldl (tstep S) s).msgs[mi]? = some r) ∧
    ((∃ slot fr, FragRef.frag mi slot ∈ ts ∧ getFrag r.m slot = some fr ∧ fr.done = false) →
      ∃ r', (ts.foldl (tstep S) s).msgs[mi]? = some r' ∧ TimedOut S r' ∧ r'.owner = r.owner ∧ r'.num = r.num) := by
  rw [tstep_eq]
  have h := foldl_failStep (timedOutMsg S) (timedOutMsg_frags_done S) ts s mi r hr
  refine ⟨fun ht => h.1 ht.2.2.2, fun hex => ?_⟩
  obtain ⟨slot, hs⟩ := h.2 hex
  exact ⟨_, hs, ⟨rfl, rfl, rfl, timedOutMsg_frags_done S r.m slot⟩, rfl, rfl⟩

/-- **C16 (completion)**: every request that still has an unanswered fragment with a pending deadline is
    completed by the expiry scan with the timeout error (and all its fragments are marked done, so
    that whatever redis sends later is dropped) -/
theorem C16_expiry_completes (s : State) (n : Nat) (mi : Nat) (r : Req) (hr : s.msgs[mi]? = some r)
    (h : ∃ slot fr, FragRef.frag mi slot ∈ (liveDeadlines s).take n ∧ getFrag r.m slot = some fr ∧ fr.done = false) :
    ∃ r', (expire goStrs s n).msgs[mi]? = some r' ∧ r'.m.done = true ∧ r'.m.rspBody = Gen.strErrMsgRequestTimeout ∧
      (∀ x ∈ r'.m.frags, x.done = true) ∧ r'.owner = r.owner ∧ r'.num = r.num := by
  obtain ⟨r', h1, h2, h3, h4⟩ := (fold_times_out goStrs ((liveDeadlines s).take n) s mi r hr).2 h
  exact ⟨r', by rw [Sim.expire_eq]; exact h1, h2.1, h2.2.1, h2.2.2.2, h3, h4⟩

/-- a request none of whose deadlines has passed keeps its state -/
theorem C16_others_untouched (s : State) (n : Nat) (mj : Nat) (h : ∀ slot, FragRef.frag mj slot ∉ (liveDeadlines s).take n) :
    (expire goStrs s n).msgs[mj]? = s.msgs[mj]? := by
  rw [Sim.expire_eq]
  exact foldl_failStep_other _ _ s mj h

/-- the deadlines that have not passed stay pending, in order; with `n` at least the number of pending deadlines all
    of them have passed -/
theorem C16_later_deadlines_stay (s : State) (n : Nat) : (expire goStrs s n).timeouts = (liveDeadlines s).drop n := rfl

theorem C16_all_passed (s : State) (n : Nat) (h : s.timeouts.length ≤ n) :
    (liveDeadlines s).take n = liveDeadlines s ∧ (expire goStrs s n).timeouts = [] := by
  have hl : (liveDeadlines s).length ≤ n := Nat.le_trans (List.length_filter_le _ _) h
  refine ⟨List.take_of_length_le hl, ?_⟩
  rw [C16_later_deadlines_stay]
  exact List.drop_of_length_le hl

/-- **C16 (late reply)**: after the timeout every fragment of the request is done, so whatever redis
    sends for it later is dropped without touching anything -/
theorem C16_late_reply_discarded (slotFn : Bytes → Nat) (limit : Nat) (r' : Req) (slot rtype : Nat) (body : Bytes) (fr : MFrag)
    (hall : ∀ x ∈ r'.m.frags, x.done = true) (hg : getFrag r'.m slot = some fr) :
    onReply goTables goMergeConsts slotFn limit r'.m slot rtype body = (r'.m, .dropped) :=
  RcVerif.Lemmas.MergeBasic.done_dropped goTables goMergeConsts slotFn limit r'.m slot rtype body fr hg
    (hall fr (RcVerif.Lemmas.MergeBasic.getFrag_some_mem r'.m slot fr hg).1)

/-- **C16 (position, once, usable)**: for all histories - expiry events anywhere in them - each connection's
    delivered replies are its requests 0,1,2,.. in order (so the timeout error sits in its request's
    position and appears once), and no completed request is held back at the head of the queue -/
theorem C16_position_and_once (cfg : Cfg) (slotFn : Bytes → Nat) (pools : List (Bytes × Bool)) (table : List (Nat × Nat × RSet))
    (es : List Event) (c : Nat) (cl : Client)
    (hflag : (reach cfg slotFn pools table es).flag = none)
    (hcl : (reach cfg slotFn pools table es).clients[c]? = some cl) :
    cl.out = (cl.log.map (·.2)).flatten ∧ cl.log.map (·.1) = List.range cl.log.length ∧
    (cl.opened = true → cl.log.length + cl.queue.length = cl.decoded ∧
                        donePrefix (reach cfg slotFn pools table es).msgs cl.queue = []) := by
  have h1 := C01 cfg slotFn pools table es c cl hflag hcl
  refine ⟨h1.1, h1.2.1, fun hop => ⟨h1.2.2.2.1 hop, RcVerif.Props.C09.C09 cfg slotFn pools table es c cl hflag hcl hop⟩⟩

/- non-vacuity: GET b; GET a on two nodes with a timeout configured, expiry, then both late replies, then GET c:
   two timeout errors in position, the late replies dropped, the third request answered (the repaired defect) -/
def exCfgT : Cfg := { limit := 1000, timeout := true, passwd := [], disableSlave := false, maxActive := 1 }
def getReq (k : UInt8) : Bytes := [42, 50, 13, 10, 36, 51, 13, 10, 103, 101, 116, 13, 10, 36, 49, 13, 10, k, 13, 10]
def exEvents : List Event :=
  [.connect true,
   .clientBytes 0 (getReq 98 ++ getReq 97) [{ visit := [(3300, [109])] }, { visit := [(15495, [110])] }],
   .runTasks, .expire 2,
   .backendBytes 0 [36, 49, 13, 10, 120, 13, 10], .backendBytes 1 [36, 49, 13, 10, 121, 13, 10],
   .clientBytes 0 (getReq 98) [{ visit := [(3300, [109])] }], .runTasks,
   .backendBytes 0 [36, 49, 13, 10, 122, 13, 10]]
example :
    let s := reach exCfgT goSlot [([109], false), ([110], false)]
      [(0, 8191, { master := [109], slaves := [] }), (8192, 16383, { master := [110], slaves := [] })] exEvents
    s.flag = none ∧
    s.clients.map (·.out) = [Gen.strErrMsgRequestTimeout ++ Gen.strErrMsgRequestTimeout ++ [36, 49, 13, 10, 122, 13, 10]] ∧
    s.clients.map (·.queue.length) = [0] := by
  decide +kernel

/- only the earlier deadline has passed: the first request gets the timeout error (its late reply is dropped), the
   second one is answered normally -/
def exEventsOne : List Event :=
  [.connect true,
   .clientBytes 0 (getReq 98 ++ getReq 97) [{ visit := [(3300, [109])] }, { visit := [(15495, [110])] }],
   .runTasks, .expire 1,
   .backendBytes 0 [36, 49, 13, 10, 120, 13, 10], .backendBytes 1 [36, 49, 13, 10, 121, 13, 10]]
example :
    let s := reach exCfgT goSlot [([109], false), ([110], false)]
      [(0, 8191, { master := [109], slaves := [] }), (8192, 16383, { master := [110], slaves := [] })] exEventsOne
    s.flag = none ∧
    s.clients.map (·.out) = [Gen.strErrMsgRequestTimeout ++ [36, 49, 13, 10, 121, 13, 10]] ∧
    s.clients.map (·.queue.length) = [0] ∧ s.timeouts = [] := by
  decide +kernel

end RcVerif.Props.C16
