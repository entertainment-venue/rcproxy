import RcVerif.Lemmas.SimBasic
import RcVerif.Lemmas.PoolBan
/-
  The two models of `Pool.Get` agree. The event-loop model (`Model/Sim.lean`: `poolGet`, where a dial succeeds) and
  the pool model (`Model/PoolBan.lean`: `get`, where it may fail) were written separately; `poolGet_agrees` says that
  on every state of the event-loop model seen as a pool state (`asSt`: dials succeed there by default) they return the
  same connection and leave the same list, `rotate_agrees` the same for the rotation loop alone. This is what lets
  the pool-level theorems of `Props/PoolHist.lean` speak for the `Pool.Get` the machine of C04 / C10 / C15 calls.
-/
namespace RcVerif.Props.PoolAgree
open RcVerif

/-- the pool's view of the event-loop model's connections -/
def asConns (backends : List Sim.Backend) : List PoolBan.Conn :=
  backends.map (fun b => { pool := 0, opened := b.opened, slave := b.isSlave })

theorem isOpen_asConns (backends : List Sim.Backend) (id : Nat) :
    PoolBan.isOpen (asConns backends) id = (match backends[id]? with | some b => b.opened | none => false) := by
  unfold PoolBan.isOpen asConns
  rw [List.getElem?_map]
  cases backends[id]? <;> rfl

/-- the two models of the rotation loop of `Pool.Get` agree: the event-loop model's `rotate` (fuel, from the back
    of the list) and the pool model's `rotateRev` (structural, on the reversed list) pick the same connection and
    leave the same list -/
theorem rotate_agrees (backends : List Sim.Backend) :
    ∀ (l : List Nat) (fuel : Nat), l.length < fuel →
      Sim.rotate backends fuel l.reverse =
        (PoolBan.rotateRev (asConns backends) l).map (fun p => (p.1, p.1 :: p.2.reverse)) := by
  intro l
  induction l with
  | nil =>
    intro fuel hf
    cases fuel with
    | zero => cases hf
    | succ f => rfl
  | cons a t ih =>
    intro fuel hf
    cases fuel with
    | zero => cases hf
    | succ f =>
      have hf' : t.length < f := Nat.lt_of_succ_lt_succ hf
      rw [List.reverse_cons, Sim.rotate_concat, PoolBan.rotateRev_cons, isOpen_asConns]
      cases backends[a]? with
      | none => exact ih f hf'
      | some b =>
        dsimp only
        by_cases ho : b.opened = true
        · rw [if_pos ho, if_pos ho]
          rfl
        · rw [if_neg ho, if_neg ho]
          exact ih f hf'

/-- the pool model's picture of a pool of the event-loop model (which has no failing dials and marks a node that
    left the topology as `removed` instead of closing its pool) -/
def asPool (cfg : Sim.Cfg) (q : Sim.Pool) : PoolBan.Pool :=
  { maxActive := cfg.maxActive, active := q.active, isSlave := q.isSlave }

def asSt (cfg : Sim.Cfg) (s : Sim.State) : PoolBan.St :=
  { pools := s.pools.map (asPool cfg), conns := asConns s.backends }

/-- **the two models of `Pool.Get` agree**: on every state of the event-loop model, for every pool, the pool
    model (with dials that succeed) returns the connection the event-loop model's `poolGet` returns and leaves the
    same active list - the theorems proved over either model speak about the same function -/
theorem poolGet_agrees (S : Sim.Strs) (cfg : Sim.Cfg) (s : Sim.State) (p : Nat) (q : Sim.Pool)
    (hq : s.pools[p]? = some q) :
    (PoolBan.get (asSt cfg s) p).2 = some (Sim.poolGet S cfg s p).2 ∧
    ((PoolBan.get (asSt cfg s) p).1.pools[p]?).map (·.active) =
      ((Sim.poolGet S cfg s p).1.pools[p]?).map (·.active) := by
  have hp : (asSt cfg s).pools[p]? = some (asPool cfg q) := by rw [asSt, List.getElem?_map, hq]; rfl
  have hc : (asSt cfg s).conns = asConns s.backends := rfl
  have hlen : (asConns s.backends).length = s.backends.length := List.length_map _
  -- the state in which the event-loop model dials when every pooled connection was dead
  let s0 : Sim.State := { s with pools := Sim.setAt s.pools p (fun x => { x with active := [] }) }
  have hq0 : s0.pools[p]? = some { q with active := [] } := Sim.getElem?_setAt_self _ _ _ q hq
  unfold PoolBan.get Sim.poolGet
  rw [hp, hq, hc]
  simp only [asPool, Bool.false_eq_true, if_false]
  by_cases hlt : q.active.length < cfg.maxActive
  · simp only [hlt, if_true, PoolBan.dial, Sim.dial_eq S cfg s p q hq, PoolBan.getElem?_set_pool_self hp,
      Sim.getElem?_setAt_self _ _ _ q hq, hc, hlen, Option.map_some, and_self]
  · have hr := rotate_agrees s.backends q.active.reverse (q.active.length + 1) (by simp)
    rw [List.reverse_reverse] at hr
    simp only [hlt, if_false, hr]
    cases PoolBan.rotateRev (asConns s.backends) q.active.reverse with
    | none =>
      simp only [Option.map_none, if_true, PoolBan.dial, Sim.dial_eq S cfg s0 p _ hq0, PoolBan.getElem?_set_pool_self hp,
        Sim.getElem?_setAt_self _ _ _ _ hq0, hc, hlen, Option.map_some, and_self, s0]
    | some pr =>
      simp only [Option.map_some, PoolBan.setPool, PoolBan.getElem?_set_pool_self hp, Sim.getElem?_setAt_self _ _ _ q hq,
        and_self]

end RcVerif.Props.PoolAgree
