import RcVerif.Model.AuthIp
/-
  C18 — with the whitelist enabled exactly the listed addresses are admitted, with it disabled
  everyone; after the file changes (additions and removals alike, enable / disable, rewrite by
  rename) the admitted set is the one in the file, whatever the history of earlier edits and of
  unreadable intermediate states.
  Not modelled: inotify itself and the "within a few seconds" bound (runtime behaviour).
-/
namespace RcVerif.Props.C18
open RcVerif RcVerif.AuthIp

theorem mem_foldl_insert (list : List Bytes) (acc : List Bytes) (ip : Bytes) :
    ip ∈ list.foldl (fun acc x => if acc.contains x then acc else acc ++ [x]) acc ↔ ip ∈ acc ∨ ip ∈ list := by
  induction list generalizing acc with
  | nil => exact (or_iff_left List.not_mem_nil).symm
  | cons x xs ih =>
    -- `GetOrInsert` adds `x` unless it is there
    have hstep : ip ∈ (if acc.contains x then acc else acc ++ [x]) ↔ ip ∈ acc ∨ ip = x := by
      split
      · next h => exact (or_iff_left_of_imp fun e => e ▸ List.contains_iff_mem.mp h).symm
      · rw [List.mem_append, List.mem_singleton]
    rw [List.foldl_cons, ih, hstep, List.mem_cons, or_assoc]

/-- after a successful reload the key set of the map is exactly the list in the file -/
theorem reload_mem (w : WL) (f : File) (ip : Bytes) : ip ∈ (reload w (some f)).ips ↔ ip ∈ f.list := by
  unfold reload
  dsimp only
  rw [mem_foldl_insert]
  -- what is kept of the old keys is listed anyway
  exact or_iff_right_of_imp fun h => List.contains_iff_mem.mp (List.mem_filter.mp h).2

/-- **C18 (one reload)**: whatever was admitted before, after the file `f` has been loaded an address is
    admitted iff the whitelist is disabled or the address is listed -/
theorem C18_reload (w : WL) (f : File) (ip : Bytes) :
    validate (reload w (some f)) ip = (!f.enable || decide (ip ∈ f.list)) := by
  show (!f.enable || (reload w (some f)).ips.contains ip) = _
  rw [List.contains_eq_mem, decide_eq_decide.mpr (reload_mem w f ip)]

/-- the last file state that could be read -/
def lastGood : List (Option File) → Option File
  | [] => none
  | x :: xs => match lastGood xs with
    | some f => some f
    | none => x

theorem lastGood_cons (x : Option File) (xs : List (Option File)) :
    lastGood (x :: xs) = match lastGood xs with | some f => some f | none => x := rfl

theorem foldl_reload (hist : List (Option File)) (w0 : WL) :
    ∃ w, hist.foldl reload w0 = match lastGood hist with | none => w0 | some f => reload w (some f) := by
  induction hist generalizing w0 with
  | nil => exact ⟨w0, rfl⟩
  | cons x xs ih =>
    obtain ⟨w, hw⟩ := ih (reload w0 x)
    rw [List.foldl_cons, hw, lastGood_cons]
    cases lastGood xs with
    | some f => exact ⟨w, rfl⟩
    | none => cases x <;> exact ⟨w0, rfl⟩

/-- **C18 (histories)**: after ANY history of edits - including states of the file that could not be
    read or parsed, which are skipped - the admitted set is that of the last readable file state -/
theorem C18_history (hist : List (Option File)) (w0 : WL) (f : File) (h : lastGood hist = some f) (ip : Bytes) :
    validate (hist.foldl reload w0) ip = (!f.enable || decide (ip ∈ f.list)) := by
  obtain ⟨w, hw⟩ := foldl_reload hist w0
  rw [hw, h]
  exact C18_reload w f ip

/-- removals take effect: an address dropped from the file is rejected after the reload -/
theorem C18_removal (w : WL) (f : File) (ip : Bytes) (he : f.enable = true) (hn : ip ∉ f.list) :
    validate (reload w (some f)) ip = false := by
  rw [C18_reload]; simp [he, hn]

/-- disabled: everyone is admitted -/
theorem C18_disabled (w : WL) (f : File) (ip : Bytes) (he : f.enable = false) :
    validate (reload w (some f)) ip = true := by
  rw [C18_reload]; simp [he]

/-- an unreadable file leaves the admitted set as it was -/
theorem C18_unreadable (w : WL) : reload w none = w := rfl

/-- the watcher reloads on write, on create (rewrite by rename) and on rename of the watched file only -/
theorem C18_triggers (watched name : Bytes) (op : Op) :
    triggers watched name op = true ↔ name = watched ∧ (op = .write ∨ op = .create ∨ op = .rename) := by
  unfold triggers
  cases op <;> simp

/- non-vacuity (the repaired defect): 10.0.0.2 removed from the file is no longer admitted -/
example :
    let w1 := reload {} (some { enable := true, list := [[49], [50]] })
    let w2 := reload w1 (some { enable := true, list := [[49]] })
    validate w1 [50] = true ∧ validate w2 [50] = false ∧ validate w2 [49] = true := by decide +kernel

end RcVerif.Props.C18
