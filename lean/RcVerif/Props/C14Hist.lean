import RcVerif.Lemmas.Handover
import RcVerif.Props.C14
/-
  C14 over histories, and the hand-over between the refresh goroutine and the event loop.

  Atomic level (the goroutine's iterations as whole steps):
  * `C14_published`: in every reachable state what is published (server map, replica sets, remembered
    signature) is what ONE earlier description said - never a mixture of two;
  * `C14_latest`: after a usable reply describing `ns`, and whatever unusable or unchanged replies follow,
    the published topology carries exactly `ns`'s change signature (`Describes`), and when the reply
    changed anything it IS `ns`, grouped master -> replicas (`C14_adopts`);
  * `sig_perm`: equal change signatures = the same node signatures as a multiset.

  Hand-over level (`Model/Handover.lean`: single reads and writes of `ServerMap`, `Replicasets`,
  `serverChanged`, every interleaving, torn intermediate values included), in the program order the code
  has now (`Gen.tickerOrder`, regenerated from `eventloop.ticker` on every run):
  * `C14_handover`: whenever the flag is down and both sides are idle, the pools and the slot table the
    event loop routes by are exactly the published server map and replica sets;
  * `C14_settles`: from every reachable state, once the goroutine has finished and one further tick has
    run, that situation is reached, and what is published is the atomic model's result on the replies
    taken so far - so every theorem of `Props/C14.lean` about `onProbeReply` applies to what is routed by;
  * `resetLast_loses_update`: in the order the code had before (flag taken down at the END of the
    rebuild) the statement is false: a concrete schedule ends flag-down, idle, and routing slots to a node
    that has no pool - for good, because the next identical descriptions are "unchanged".
-/
namespace RcVerif.Props.C14Hist
open RcVerif RcVerif.Cluster RcVerif.Handover

variable (info : Bytes → Option Info)

abbrev astep (st : RState) (msg : Bytes) : RState := onProbeReply Gen.redisClusterSlots info st msg

/-! ### atomic level -/

/-- what is published came, whole, from one description -/
def Pub (st : RState) : Prop :=
  ∃ ns, st.servers = setServers ns ∧ st.sets = setReplicasets ns ∧ st.lastNames = sortBytes (ns.map sigOf)

/-- the published topology has the change signature of `ns` -/
def Describes (st : RState) (ns : List Node) : Prop :=
  ∃ ns', sortBytes (ns'.map sigOf) = sortBytes (ns.map sigOf) ∧
    st.servers = setServers ns' ∧ st.sets = setReplicasets ns'

/-- **every reachable published state is one description, whole** -/
theorem C14_published (msgs : List Bytes) : Pub (msgs.foldl (astep info) {}) := by
  refine List.foldlRecOn msgs (astep info) (motive := Pub) ⟨[], rfl, rfl, rfl⟩ (fun st h m _ => ?_)
  rw [astep, onProbeReply_eq]
  cases verdict Gen.redisClusterSlots info st m with
  | none => exact h
  | some ns => exact ⟨ns, rfl, rfl, rfl⟩

/-- **the latest valid description wins**: a usable reply describing `ns`, arriving after ANY history, followed
    by any replies that change nothing (unusable ones, or the same description again), leaves the
    published topology carrying `ns`'s signature -/
theorem C14_latest (before : List Bytes) (msg text : Bytes) (ns : List Node) (after : List Bytes)
    (hgate : probeText msg = some text)
    (hparse : parseText Gen.redisClusterSlots
      (fun a => (before.foldl (astep info) {}).servers.any (·.addr = a)) info text = some ns)
    (hquiet : ∀ m ∈ after, astep info ((before ++ [msg]).foldl (astep info) {}) m =
      (before ++ [msg]).foldl (astep info) {}) :
    Describes ((before ++ [msg] ++ after).foldl (astep info) {}) ns := by
  have hafter : ∀ (st : RState) (l : List Bytes), (∀ m ∈ l, astep info st m = st) → l.foldl (astep info) st = st :=
    fun st l h => List.foldlRecOn l (astep info) (motive := (· = st)) rfl (fun _ ht m hm => by rw [ht]; exact h m hm)
  rw [List.foldl_append, hafter _ _ hquiet, List.foldl_append]
  simp only [List.foldl_cons, List.foldl_nil]
  have hpub := C14_published info before
  have hal : (before.foldl (astep info) {}).alive = true := C14.C14_alive_history info before {} rfl
  generalize before.foldl (astep info) {} = st at hparse hpub hal
  rw [astep, onProbeReply_gate _ info hal hgate]
  rw [adopt_some _ info hparse]
  by_cases hc : ns.length ≠ st.servers.length ∨ sortBytes (ns.map sigOf) ≠ st.lastNames
  · rw [if_pos hc]; exact ⟨ns, rfl, rfl, rfl⟩
  · -- nothing new: what is published has this signature already
    rw [if_neg hc]
    obtain ⟨ns', h1, h2, h3⟩ := hpub
    exact ⟨ns', by rw [← h3, Decidable.not_not.mp (fun h => hc (.inr h))], h1, h2⟩

/-! ### hand-over level -/

/-- the program order of `ticker` the model (and the driver of the correspondence view) runs -/
abbrev resetFirst : Bool := resetFirstNow

/-- the source has one of the two orders the model can run, and the goroutine publishes in the modelled order -/
theorem order_is_modelled :
    (Gen.tickerOrder = ["reset", "remove", "add", "table"] ∨ Gen.tickerOrder = ["remove", "add", "table", "reset"]) ∧
    Gen.publishOrder = ["setServer", "setReplicaset", "flag"] := by decide +kernel

abbrev mrun (evs : List Ev) : MState := run Gen.redisClusterSlots info resetFirst {} evs

theorem resetFirst_now : resetFirst = true := by decide +kernel

theorem inv_mrun (evs : List Ev) : Inv (mrun info evs) := by
  unfold mrun; rw [resetFirst_now]; exact inv_run _ _ evs {} inv_init

theorem rinv_mrun (evs : List Ev) : RInv Gen.redisClusterSlots info (mrun info evs) :=
  rinv_run _ _ _ evs {} (rinv_init _ _)

/-- **hand-over**: in every state reachable under any interleaving of the goroutine's and the event loop's
    reads and writes (torn values included), when the change flag is down and both are idle, the event loop's
    pools and slot table are exactly the published server map and replica sets -/
theorem C14_handover (evs : List Ev) (hg : (mrun info evs).gpc = .idle) (ht : (mrun info evs).tpc = .idle)
    (hc : (mrun info evs).r.changed = false) : Clean (mrun info evs) :=
  (inv_mrun info evs).clean hg ht hc

/-- what is published, whenever the goroutine is between two replies, is the atomic model's result on the
    replies it has taken from the channel: the theorems about `onProbeReply` describe what is routed by -/
theorem C14_published_is_atomic (evs : List Ev) (hg : (mrun info evs).gpc = .idle) :
    PubEq (mrun info evs).r (atomic Gen.redisClusterSlots info (mrun info evs).log) :=
  (rinv_mrun info evs).idle _ _ hg

/-- **convergence**: from every reachable state, once the goroutine has finished what it is doing, the running
    pass (if any) is over and one more tick has run, the flag is down, both are idle, the event loop routes
    by exactly what is published, and that is the atomic result on the replies taken so far -/
theorem C14_settles (evs : List Ev) :
    (settle resetFirst (mrun info evs)).gpc = .idle ∧ (settle resetFirst (mrun info evs)).tpc = .idle ∧
    (settle resetFirst (mrun info evs)).r.changed = false ∧ Clean (settle resetFirst (mrun info evs)) ∧
    (settle resetFirst (mrun info evs)).log = (mrun info evs).log ∧
    PubEq (settle resetFirst (mrun info evs)).r (atomic Gen.redisClusterSlots info (mrun info evs).log) := by
  rw [resetFirst_now]
  exact settles_of_inv _ info _ (inv_mrun info evs) (rinv_mrun info evs)

/-! ### what is routed by has a pool -/

/-- **no slot is routed to a node without a pool**: in a settled state (flag down, both sides idle) whose published
    description lists every address once, every slot the table routes goes to a master that has a pool in the master
    role, and each of its replicas has a pool in the replica role. (This is what the reset-last order broke.) -/
theorem C14_routed_nodes_have_pools (evs : List Ev)
    (hg : (mrun info evs).gpc = .idle) (ht : (mrun info evs).tpc = .idle) (hc : (mrun info evs).r.changed = false)
    (ns : List Node) (hnd : AddrNodup ns)
    (hs : (mrun info evs).r.servers = setServers ns) (hsets : (mrun info evs).r.sets = setReplicasets ns)
    (slot : Nat) (p : Node × List Node) (hp : slotTable (mrun info evs).table slot = some p) :
    poolRole (mrun info evs).pools p.1.addr = some false ∧ ∀ sl ∈ p.2, poolRole (mrun info evs).pools sl.addr = some true := by
  have hclean := C14_handover info evs hg ht hc
  have hmem : p ∈ setReplicasets ns := by
    rw [hclean.2, hsets] at hp
    exact (C14.C14_table _ slot p hp).1
  have hok := C14.C14_sets_sound ns p hmem
  -- every described node has a pool, in its role
  have role : ∀ n ∈ ns, poolRole (mrun info evs).pools n.addr = some n.isSlave := fun n hn => by
    rw [hclean.1, hs, setServers_of_nodup ns hnd, serverRole_mem ns hnd n hn]
  exact ⟨hok.2.1 ▸ role p.1 hok.1, fun sl hsl => (hok.2.2 sl hsl).2.1 ▸ role sl (hok.2.2 sl hsl).1⟩

/-! ### the order the code had: flag taken down at the end of the rebuild -/

def v1 : Bytes := [36, 50, 54, 52, 13, 10, 97, 97, 97, 97, 97, 97, 97, 97, 97, 97, 97, 97, 97, 97, 97, 97, 97, 97, 97, 97, 97, 97, 97, 97, 97, 97, 97, 97, 97, 97, 97, 97, 97, 97, 97, 97, 97, 97, 97, 97, 32, 49, 46, 49, 46, 49, 46, 49, 58, 49, 64, 50, 32, 109, 97, 115, 116, 101, 114, 32, 45, 32, 48, 32, 48, 32, 49, 32, 99, 111, 110, 110, 101, 99, 116, 101, 100, 32, 48, 45, 53, 52, 54, 48, 10, 98, 98, 98, 98, 98, 98, 98, 98, 98, 98, 98, 98, 98, 98, 98, 98, 98, 98, 98, 98, 98, 98, 98, 98, 98, 98, 98, 98, 98, 98, 98, 98, 98, 98, 98, 98, 98, 98, 98, 98, 32, 49, 46, 49, 46, 49, 46, 50, 58, 49, 64, 50, 32, 109, 97, 115, 116, 101, 114, 32, 45, 32, 48, 32, 48, 32, 49, 32, 99, 111, 110, 110, 101, 99, 116, 101, 100, 32, 53, 52, 54, 49, 45, 49, 48, 57, 50, 50, 10, 99, 99, 99, 99, 99, 99, 99, 99, 99, 99, 99, 99, 99, 99, 99, 99, 99, 99, 99, 99, 99, 99, 99, 99, 99, 99, 99, 99, 99, 99, 99, 99, 99, 99, 99, 99, 99, 99, 99, 99, 32, 49, 46, 49, 46, 49, 46, 51, 58, 49, 64, 50, 32, 109, 97, 115, 116, 101, 114, 32, 45, 32, 48, 32, 48, 32, 49, 32, 99, 111, 110, 110, 101, 99, 116, 101, 100, 32, 49, 48, 57, 50, 51, 45, 49, 54, 51, 56, 51, 10, 13, 10]
def v2 : Bytes := [36, 51, 52, 57, 13, 10, 97, 97, 97, 97, 97, 97, 97, 97, 97, 97, 97, 97, 97, 97, 97, 97, 97, 97, 97, 97, 97, 97, 97, 97, 97, 97, 97, 97, 97, 97, 97, 97, 97, 97, 97, 97, 97, 97, 97, 97, 32, 49, 46, 49, 46, 49, 46, 49, 58, 49, 64, 50, 32, 109, 97, 115, 116, 101, 114, 32, 45, 32, 48, 32, 48, 32, 49, 32, 99, 111, 110, 110, 101, 99, 116, 101, 100, 32, 49, 48, 48, 45, 53, 52, 54, 48, 10, 98, 98, 98, 98, 98, 98, 98, 98, 98, 98, 98, 98, 98, 98, 98, 98, 98, 98, 98, 98, 98, 98, 98, 98, 98, 98, 98, 98, 98, 98, 98, 98, 98, 98, 98, 98, 98, 98, 98, 98, 32, 49, 46, 49, 46, 49, 46, 50, 58, 49, 64, 50, 32, 109, 97, 115, 116, 101, 114, 32, 45, 32, 48, 32, 48, 32, 49, 32, 99, 111, 110, 110, 101, 99, 116, 101, 100, 32, 53, 52, 54, 49, 45, 49, 48, 57, 50, 50, 10, 99, 99, 99, 99, 99, 99, 99, 99, 99, 99, 99, 99, 99, 99, 99, 99, 99, 99, 99, 99, 99, 99, 99, 99, 99, 99, 99, 99, 99, 99, 99, 99, 99, 99, 99, 99, 99, 99, 99, 99, 32, 49, 46, 49, 46, 49, 46, 51, 58, 49, 64, 50, 32, 109, 97, 115, 116, 101, 114, 32, 45, 32, 48, 32, 48, 32, 49, 32, 99, 111, 110, 110, 101, 99, 116, 101, 100, 32, 49, 48, 57, 50, 51, 45, 49, 54, 51, 56, 51, 10, 100, 100, 100, 100, 100, 100, 100, 100, 100, 100, 100, 100, 100, 100, 100, 100, 100, 100, 100, 100, 100, 100, 100, 100, 100, 100, 100, 100, 100, 100, 100, 100, 100, 100, 100, 100, 100, 100, 100, 100, 32, 49, 46, 49, 46, 49, 46, 52, 58, 49, 64, 50, 32, 109, 97, 115, 116, 101, 114, 32, 45, 32, 48, 32, 48, 32, 49, 32, 99, 111, 110, 110, 101, 99, 116, 101, 100, 32, 48, 45, 57, 57, 10, 13, 10]
def v3 : Bytes := [36, 52, 51, 53, 13, 10, 97, 97, 97, 97, 97, 97, 97, 97, 97, 97, 97, 97, 97, 97, 97, 97, 97, 97, 97, 97, 97, 97, 97, 97, 97, 97, 97, 97, 97, 97, 97, 97, 97, 97, 97, 97, 97, 97, 97, 97, 32, 49, 46, 49, 46, 49, 46, 49, 58, 49, 64, 50, 32, 109, 97, 115, 116, 101, 114, 32, 45, 32, 48, 32, 48, 32, 49, 32, 99, 111, 110, 110, 101, 99, 116, 101, 100, 32, 50, 48, 48, 45, 53, 52, 54, 48, 10, 98, 98, 98, 98, 98, 98, 98, 98, 98, 98, 98, 98, 98, 98, 98, 98, 98, 98, 98, 98, 98, 98, 98, 98, 98, 98, 98, 98, 98, 98, 98, 98, 98, 98, 98, 98, 98, 98, 98, 98, 32, 49, 46, 49, 46, 49, 46, 50, 58, 49, 64, 50, 32, 109, 97, 115, 116, 101, 114, 32, 45, 32, 48, 32, 48, 32, 49, 32, 99, 111, 110, 110, 101, 99, 116, 101, 100, 32, 53, 52, 54, 49, 45, 49, 48, 57, 50, 50, 10, 99, 99, 99, 99, 99, 99, 99, 99, 99, 99, 99, 99, 99, 99, 99, 99, 99, 99, 99, 99, 99, 99, 99, 99, 99, 99, 99, 99, 99, 99, 99, 99, 99, 99, 99, 99, 99, 99, 99, 99, 32, 49, 46, 49, 46, 49, 46, 51, 58, 49, 64, 50, 32, 109, 97, 115, 116, 101, 114, 32, 45, 32, 48, 32, 48, 32, 49, 32, 99, 111, 110, 110, 101, 99, 116, 101, 100, 32, 49, 48, 57, 50, 51, 45, 49, 54, 51, 56, 51, 10, 100, 100, 100, 100, 100, 100, 100, 100, 100, 100, 100, 100, 100, 100, 100, 100, 100, 100, 100, 100, 100, 100, 100, 100, 100, 100, 100, 100, 100, 100, 100, 100, 100, 100, 100, 100, 100, 100, 100, 100, 32, 49, 46, 49, 46, 49, 46, 52, 58, 49, 64, 50, 32, 109, 97, 115, 116, 101, 114, 32, 45, 32, 48, 32, 48, 32, 49, 32, 99, 111, 110, 110, 101, 99, 116, 101, 100, 32, 48, 45, 57, 57, 10, 101, 101, 101, 101, 101, 101, 101, 101, 101, 101, 101, 101, 101, 101, 101, 101, 101, 101, 101, 101, 101, 101, 101, 101, 101, 101, 101, 101, 101, 101, 101, 101, 101, 101, 101, 101, 101, 101, 101, 101, 32, 49, 46, 49, 46, 49, 46, 53, 58, 49, 64, 50, 32, 109, 97, 115, 116, 101, 114, 32, 45, 32, 48, 32, 48, 32, 49, 32, 99, 111, 110, 110, 101, 99, 116, 101, 100, 32, 49, 48, 48, 45, 49, 57, 57, 10, 13, 10]
def addrE : Bytes := [49, 46, 49, 46, 49, 46, 53, 58, 49]
def healthy : Bytes → Option Info := fun _ => some { loading := false, linkUp := true }

/-- three nodes published and loaded; a fourth node published; while the event loop is loading it (pools
    done, table not yet) a fifth node is published -/
def lostUpdate : List Ev :=
  [.deliver v1, .g, .g, .g, .g, .tick, .t, .t, .t, .t,
   .deliver v2, .g, .g, .g, .g, .tick, .t, .t,
   .deliver v3, .g, .g, .g, .g,
   .t, .t]

/-- **reset-last loses an update**: the schedule ends with the flag down and both sides idle, the table routes
    slots 100-199 to the fifth node, and there is no pool for it; identical later descriptions are
    "unchanged", so nothing repairs it -/
theorem resetLast_loses_update :
    let s := run 16384 healthy false {} lostUpdate
    s.gpc = .idle ∧ s.tpc = .idle ∧ s.r.changed = false ∧
    serverRole s.r.servers addrE = some false ∧ poolRole s.pools addrE = none ∧
    ((slotTable s.table 150).map (·.1.addr)) = some addrE := by decide +kernel

theorem resetLast_not_clean : ¬ Clean (run 16384 healthy false {} lostUpdate) := by
  intro h
  have h1 := h.1 addrE
  have h2 := resetLast_loses_update
  simp only at h2
  rw [h2.2.2.2.1, h2.2.2.2.2.1] at h1
  exact absurd h1 (by decide)

/-- the same schedule in the order the code has now: the flag is still up at the end, the next tick loads the
    fifth node -/
example :
    let s := settle true (run 16384 healthy true {} lostUpdate)
    s.r.changed = false ∧ poolRole s.pools addrE = some false ∧
    ((slotTable s.table 150).map (·.1.addr)) = some addrE := by decide +kernel

/-- equal change signatures: the same node signatures, as a multiset -/
theorem sig_perm (a b : List Node) (h : sortBytes (a.map sigOf) = sortBytes (b.map sigOf)) :
    (a.map sigOf).Perm (b.map sigOf) :=
  (sortBytes_perm _).symm.trans (h ▸ sortBytes_perm _)

end RcVerif.Props.C14Hist
