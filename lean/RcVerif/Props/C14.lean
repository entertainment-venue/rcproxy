import RcVerif.Lemmas.Cluster
import RcVerif.Gen.Tables
/-
  C14 — the routing table follows the latest valid CLUSTER NODES description; unusable probe
  replies leave the previous map in force and never stop later updates from being adopted.

  * `C14_alive` / `C14_alive_history`: whatever the probe replies were, the refresh loop is
    still running (for ALL byte strings and all histories);
  * `C14_keeps`, `C14_gate_*`, `C14_keeps_few_nodes`: each class of unusable reply leaves the published state
    untouched;
  * `C14_adopts`: a usable text is adopted from ANY reachable state: the published nodes are
    exactly the usable lines, grouped master -> its replicas;
  * `C14_filter`: which lines are usable (failed / handshake / noaddr / disconnected / address-less
    nodes and loading or link-down NEW replicas are excluded);
  * `C14_table`: the slot table built by the ticker maps a slot to a published set whose master
    claims it, and to nothing when no master claims it.
  In this file publication is atomic; the interleaving of the refresh goroutine with the ticker is in
  `C14Hist.lean`. Not modelled: the once-per-second cadence.
-/
namespace RcVerif.Props.C14
open RcVerif RcVerif.Cluster RcVerif.Resp RcVerif.SDecode

variable (info : Bytes → Option Info)

abbrev step (st : RState) (msg : Bytes) : RState := onProbeReply Gen.redisClusterSlots info st msg

/-- the loop never exits: no probe reply, however malformed, stops the refresh goroutine -/
theorem C14_alive (st : RState) (msg : Bytes) (h : st.alive = true) : (step info st msg).alive = true := by
  rw [step, onProbeReply_eq]
  cases verdict Gen.redisClusterSlots info st msg <;> exact h

theorem C14_alive_history (msgs : List Bytes) (st : RState) (h : st.alive = true) :
    (msgs.foldl (step info) st).alive = true :=
  List.foldlRecOn msgs (step info) (motive := fun st => st.alive = true) h (fun st h m _ => C14_alive info st m h)

/-- a reply the gate rejects leaves the whole state untouched -/
theorem C14_keeps (st : RState) (msg : Bytes) (h : probeText msg = none) : step info st msg = st := by
  unfold step onProbeReply
  split
  · rfl
  · rw [h]

/- the gate: each class of reply it rejects, read off `probeText_some` -/

/-- error replies (`-ERR ...`, `-LOADING ...`), statuses, integers, arrays: anything that is not a bulk string -/
theorem C14_gate_non_bulk (msg : Bytes) (h : msg.head? ≠ some 36) : probeText msg = none :=
  Option.eq_none_iff_forall_ne_some.mpr fun _ ht => by
    obtain ⟨_, _, _, _, _, hh, _⟩ := (probeText_some ht).2.2.2
    exact h hh

/-- the nil reply `$-1` -/
theorem C14_gate_nil (rest : Bytes) : probeText ([36, 45, 49] ++ rest) = none :=
  Option.eq_none_iff_forall_ne_some.mpr fun _ ht => (probeText_some ht).2.2.1 rfl

/-- `+OK` -/
theorem C14_gate_ok (rest : Bytes) : probeText ([43, 79, 75] ++ rest) = none :=
  Option.eq_none_iff_forall_ne_some.mpr fun _ ht => (probeText_some ht).2.1 rfl

/-- a too short reply -/
theorem C14_gate_short (msg : Bytes) (h : msg.length < 3) : probeText msg = none :=
  Option.eq_none_iff_forall_ne_some.mpr fun _ ht => Nat.not_le_of_lt h (probeText_some ht).1

/-- an oversized text or a malformed length -/
theorem C14_gate_length (msg : Bytes) (text : Bytes) (h : probeText msg = some text) :
    ∃ lf n, indexOf 10 msg = some lf ∧ parseLen ((msg.take (lf - 1)).drop 1) = .ok n ∧ n ≤ 163840 ∧
      msg.head? = some 36 ∧ text = (msg.take (msg.length - 3)).drop (lf + 1) :=
  (probeText_some h).2.2.2

/-- a text with fewer than three usable nodes is not adopted -/
theorem C14_keeps_few_nodes (st : RState) (text : Bytes)
    (h : parseText Gen.redisClusterSlots (fun a => st.servers.any (·.addr = a)) info text = none) :
    adopt Gen.redisClusterSlots info st text = st := by
  unfold adopt; rw [h]

theorem parseText_len (known : Bytes → Bool) (text : Bytes) (ns : List Node)
    (h : parseText Gen.redisClusterSlots known info text = some ns) :
    3 ≤ ns.length ∧ ns = (splitOn 10 text).filterMap (parseLineNode Gen.redisClusterSlots known info) := by
  unfold parseText at h
  obtain ⟨hlt, h⟩ := Option.ite_none_left_eq_some.mp h
  cases h; exact ⟨Nat.le_of_not_lt hlt, rfl⟩

/-- **adoption**: from ANY state (whatever unusable replies came before), a text whose usable lines are
    `ns` either publishes exactly those nodes - grouped master -> its replicas, change flag raised - or,
    when its change signature and node count equal what was published last, leaves the published sets -/
theorem C14_adopts (st : RState) (text : Bytes) (ns : List Node)
    (h : parseText Gen.redisClusterSlots (fun a => st.servers.any (·.addr = a)) info text = some ns) :
    let st' := adopt Gen.redisClusterSlots info st text
    (st'.servers = setServers ns ∧ st'.sets = setReplicasets ns ∧ st'.changed = true) ∨
    (st'.servers = st.servers ∧ st'.sets = st.sets ∧ st'.changed = st.changed ∧
      sortBytes (ns.map sigOf) = st.lastNames ∧ ns.length = st.servers.length) := by
  show (_ ∧ _ ∧ _) ∨ _
  rw [adopt_some _ info h]
  by_cases hc : ns.length ≠ st.servers.length ∨ sortBytes (ns.map sigOf) ≠ st.lastNames
  · rw [if_pos hc]; exact Or.inl ⟨rfl, rfl, rfl⟩
  · rw [if_neg hc]
    exact Or.inr ⟨rfl, rfl, rfl, Decidable.not_not.mp (fun h => hc (.inr h)), Decidable.not_not.mp (fun h => hc (.inl h))⟩

/-- **line filter**: a line contributes a node only if it has at least eight columns, is flagged master
    or slave, is not flagged noaddr / handshake / fail(?), its link is not disconnected, it has a usable
    address - and, if the node was not known before, INFO answered and a replica is neither loading
    nor cut off from its master -/
theorem C14_filter (known : Bytes → Bool) (line : Bytes) (n : Node)
    (h : parseLineNode Gen.redisClusterSlots known info line = some n) :
    let xs := splitOn 32 line
    8 ≤ xs.length ∧
    isInfix bNoaddr (xs.getD 2 []) = false ∧ isInfix bHandshake (xs.getD 2 []) = false ∧
    isInfix bFail (xs.getD 2 []) = false ∧
    (isInfix bMaster (xs.getD 2 []) = true ∨ isInfix bSlave (xs.getD 2 []) = true) ∧
    isInfix bDisconnected (xs.getD 7 []) = false ∧
    n.addr = parseAddr (xs.getD 1 []) ∧ n.addr ≠ [] ∧
    (known n.addr = true ∨ ∃ i, info n.addr = some i ∧ (n.isSlave = true → i.loading = false ∧ i.linkUp = true)) := by
  intro xs
  obtain ⟨hu, nd, hn, ha⟩ := parseLineNode_some h
  simp only [lineUsable, Bool.and_eq_true, decide_eq_true_eq, Bool.not_eq_true', Bool.or_eq_true,
    List.isEmpty_eq_false_iff] at hu
  obtain ⟨⟨⟨⟨⟨⟨h8, hna⟩, hhs⟩, hfail⟩, hrole⟩, hdis⟩, haddr⟩ := hu
  obtain ⟨rfl, hinfo⟩ := admitNode_some ha
  exact ⟨h8, hna, hhs, hfail, hrole, hdis, nodeOfLine_addr hn, nodeOfLine_addr hn ▸ haddr, hinfo⟩

def SetsOK (ns : List Node) (sets : List (Node × List Node)) : Prop :=
  ∀ p ∈ sets, p.1 ∈ ns ∧ p.1.isSlave = false ∧ ∀ s ∈ p.2, s ∈ ns ∧ s.isSlave = true ∧ s.masterId = p.1.name

theorem attach_ok {ns : List Node} {sets : List (Node × List Node)} {sl : Node}
    (h : SetsOK ns sets) (hsl : sl ∈ ns) (hs : sl.isSlave = true) : SetsOK ns (attach sets sl) := by
  intro p hp
  rcases mem_attach hp with hp | ⟨q, hq, hn, rfl⟩
  · exact h p hp
  · refine ⟨(h q hq).1, (h q hq).2.1, fun s hs' => ?_⟩
    rcases List.mem_append.mp hs' with h1 | h1
    · exact (h q hq).2.2 s h1
    · cases List.mem_singleton.mp h1; exact ⟨hsl, hs, hn.symm⟩

/-- the published replica sets: every master is a usable master line, its replicas are exactly usable
    replica lines that name it -/
theorem C14_sets_sound (ns : List Node) : SetsOK ns (setReplicasets ns) := by
  rw [setReplicasets_eq]
  refine List.foldlRecOn _ attach (motive := SetsOK ns) (fun p hp => ?_)
    (fun sets h s hs => attach_ok h (List.mem_filter.mp hs).1 (List.mem_filter.mp hs).2)
  obtain ⟨m, hm, rfl⟩ := List.mem_map.mp hp
  have := List.mem_filter.mp hm
  exact ⟨this.1, by simpa using this.2, fun _ h => nomatch h⟩

/-- **slot table**: a slot is served by a published set whose master claims it -/
theorem C14_table (sets : List (Node × List Node)) (slot : Nat) (p : Node × List Node)
    (h : slotTable sets slot = some p) :
    p ∈ sets ∧ ∃ r ∈ p.1.slots, r.1 ≤ slot ∧ slot ≤ r.2 := by
  unfold slotTable at h
  have hm := List.mem_of_find?_eq_some h
  have hp := List.find?_some h
  refine ⟨List.mem_reverse.mp hm, ?_⟩
  simp only [List.any_eq_true, decide_eq_true_eq] at hp
  exact hp

/-- ... and an unclaimed slot is served by nobody (requests for it are answered with an error) -/
theorem C14_unclaimed (sets : List (Node × List Node)) (slot : Nat)
    (h : ∀ p ∈ sets, ∀ r ∈ p.1.slots, ¬ (r.1 ≤ slot ∧ slot ≤ r.2)) :
    slotTable sets slot = none :=
  slotTable_eq_none.mpr h

/-- claimed slots are served: if some published master claims the slot, the table has an entry -/
theorem C14_claimed (sets : List (Node × List Node)) (slot : Nat) (p : Node × List Node) (hp : p ∈ sets)
    (r : Nat × Nat) (hr : r ∈ p.1.slots) (h : r.1 ≤ slot ∧ slot ≤ r.2) :
    (slotTable sets slot).isSome :=
  Option.isSome_iff_ne_none.mpr fun hn => slotTable_eq_none.mp hn p hp r hr h

/- non-vacuity / regression witnesses (kernel-evaluated): one `-ERR` reply keeps the loop alive, `*0` and `:5`
   do not panic and change nothing -/
example : (step (fun _ => none) {} [45, 69, 82, 82, 32, 120, 13, 10]).alive = true := by decide +kernel
example : step (fun _ => none) {} [42, 48, 13, 10] = ({} : RState) := C14_keeps _ _ _ (C14_gate_non_bulk _ (by decide))
example : parseSlot 16384 [49, 54, 51, 56, 52] = none := by decide +kernel       -- "16384" is out of range
example : parseSlot 16384 [53, 45, 49] = none := by decide +kernel               -- "5-1" is reversed
example : parseSlot 16384 [48, 45, 49, 54, 51, 56, 51] = some (0, 16383) := by decide +kernel

end RcVerif.Props.C14
