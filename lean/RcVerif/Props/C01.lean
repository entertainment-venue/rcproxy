import RcVerif.Lemmas.SimInv
import RcVerif.Model.SimInst
/-
  C01 — on every client connection exactly one reply per request, in request order, nothing else.

  Stated over ALL histories of events of the event-loop machine (`Sim.run` from `Sim.init`), with
  arbitrary interleavings of client bytes, write signals, backend replies (in any order across
  connections), closes and expiries, and arbitrary choices for what Go leaves open:

  for every client connection, the bytes written to it are exactly the concatenation of the replies
  delivered so far; those replies answer the connection's requests number 0, 1, 2, ... in that order,
  each exactly once; and every request decoded so far is either delivered or still queued (none
  dropped) - for locally answered, rejected, single and split requests alike.
-/
namespace RcVerif.Props.C01
open RcVerif RcVerif.Sim RcVerif.Lemmas.SimInv

/-- the state reached by any history -/
abbrev reach (cfg : Cfg) (slotFn : Bytes → Nat) (pools : List (Bytes × Bool)) (table : List (Nat × Nat × RSet))
    (es : List Event) : State :=
  run goTables goStrs cfg slotFn (Sim.init goStrs cfg pools table) es

/-- inside the modelled domain every reachable state satisfies the client-side invariant -/
theorem cinv_reach (cfg : Cfg) (slotFn : Bytes → Nat) (pools : List (Bytes × Bool)) (table : List (Nat × Nat × RSet))
    (es : List Event) (hflag : (reach cfg slotFn pools table es).flag = none) : CInv (reach cfg slotFn pools table es) := by
  rcases good_run goTables goStrs cfg slotFn es _ (good_init goStrs cfg pools table) with hg | hg
  · rw [hflag] at hg
    cases hg
  · exact hg

def C01_statement : Prop :=
  ∀ (cfg : Cfg) (slotFn : Bytes → Nat) (pools : List (Bytes × Bool)) (table : List (Nat × Nat × RSet))
    (es : List Event) (c : Nat) (cl : Client),
    (reach cfg slotFn pools table es).flag = none →          -- inside the modelled domain
    (reach cfg slotFn pools table es).clients[c]? = some cl →
      -- nothing but replies is ever written: no stray bytes
      cl.out = (cl.log.map (·.2)).flatten ∧
      -- the delivered replies answer requests 0,1,2,.. in order, each exactly once
      cl.log.map (·.1) = List.range cl.log.length ∧
      -- the queue holds the next requests, in order
      cl.queue.map (numOf (reach cfg slotFn pools table es).msgs) = List.range' cl.log.length cl.queue.length ∧
      -- none dropped: every request decoded on an open connection is delivered or queued
      (cl.opened = true → cl.log.length + cl.queue.length = cl.decoded) ∧
      cl.log.length + cl.queue.length ≤ cl.decoded

theorem C01 : C01_statement := by
  intro cfg slotFn pools table es c cl hflag hcl
  have hok := cinv_reach cfg slotFn pools table es hflag c cl hcl
  obtain ⟨k, h1, h2, h3, h4⟩ := hok.nums
  have hk : k = cl.log.length := by
    have := congrArg List.length h1; simpa using this.symm
  subst hk
  exact ⟨hok.out, h1, h2, h4, h3⟩

/-- corollary: the i-th reply on the wire belongs to the i-th request -/
theorem C01_ith_reply (cfg : Cfg) (slotFn : Bytes → Nat) (pools : List (Bytes × Bool)) (table : List (Nat × Nat × RSet))
    (es : List Event) (c : Nat) (cl : Client) (i : Nat) (p : Nat × Bytes)
    (hflag : (reach cfg slotFn pools table es).flag = none)
    (hcl : (reach cfg slotFn pools table es).clients[c]? = some cl) (hp : cl.log[i]? = some p) : p.1 = i := by
  have h := (C01 cfg slotFn pools table es c cl hflag hcl).2.1
  have : (cl.log.map (·.1))[i]? = some p.1 := by rw [List.getElem?_map, hp]; rfl
  rw [h] at this
  have hi : i < cl.log.length := (List.getElem?_eq_some_iff.mp hp).1
  rw [List.getElem?_range hi] at this
  injection this with this; exact this.symm

/- non-vacuity: "GET a; PING" in one chunk, then the backend answers: +PONG comes second
   (the repaired defect), evaluated by the kernel on the model with the real tables -/
def exCfg : Cfg := { limit := 1000, timeout := false, passwd := [], disableSlave := false, maxActive := 1 }
def exEvents : List Event :=
  [.connect true,
   .clientBytes 0 [42, 50, 13, 10, 36, 51, 13, 10, 103, 101, 116, 13, 10, 36, 49, 13, 10, 97, 13, 10,
                   42, 49, 13, 10, 36, 52, 13, 10, 112, 105, 110, 103, 13, 10] [{ visit := [(15495, [109])] }],
   .runTasks,
   .backendBytes 0 [36, 49, 13, 10, 118, 13, 10]]
example :
    let s := reach exCfg goSlot [([109], false)] [(0, 16383, { master := [109], slaves := [] })] exEvents
    s.flag = none ∧ (s.clients.map (·.out)) = [[36, 49, 13, 10, 118, 13, 10, 43, 80, 79, 78, 71, 13, 10]] ∧
    (s.clients.map (fun c => c.log.map (·.1))) = [[0, 1]] := by
  decide +kernel

end RcVerif.Props.C01
