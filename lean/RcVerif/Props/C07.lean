import RcVerif.Lemmas.MergeMGet
import RcVerif.Lemmas.MergeDelSet
import RcVerif.Model.SimInst
/-
  C07 — split multi-key replies are reassembled correctly in ANY arrival order.

  * MGET: one element per requested key, in request order, each equal to what the
    owning node returned for that key (null when absent, duplicates repeated, values
    any bytes);
  * DEL: the sum of the per-node counts;
  * MSET: OK only if every node answered OK;
  and the completion happens exactly at the last answer, whatever the order
  (`order` ranges over all permutations of the fragments).

  Stated over the constants regenerated from the Go source (`goTables`,
  `goMergeConsts`) and parametric in the slot function and in the nodes' contents.
-/
namespace RcVerif.Props.C07
open RcVerif RcVerif.Merge RcVerif.CDecode RcVerif.Lemmas.Frame
open RcVerif.Lemmas.MergeMGet RcVerif.Lemmas.MergeDelSet RcVerif.Lemmas.Group

/-- the request object the decoder builds for an MGET is a valid starting point: one fresh
    fragment per group, groups = keys grouped by slot (links C06 to C07) -/
theorem init_of_mget (slot : Bytes → Nat) (keys : List Bytes) (nm : Bytes) :
    let m0 := ofCMsg { type := goTables.cMget, key := [], keys := keys, groups := groupBySlot slot keys,
                       frags := (groupBySlot slot keys).map (fun p => (p.1, encodeCmd nm p.2)) }
    Init goTables slot m0 ∧ (m0.frags.map (·.slot)).Nodup := by
  intro m0
  have hslots : m0.frags.map (·.slot) = (groupBySlot slot keys).map (·.1) := by
    simp [m0, ofCMsg, List.map_map, Function.comp]
  refine ⟨⟨rfl, rfl, fun fr hfr => ?_, fun s => ?_, rfl, rfl⟩, hslots ▸ group_nodup slot keys⟩
  · obtain ⟨p, _, rfl⟩ := List.mem_map.mp hfr
    exact ⟨rfl, rfl⟩
  · rw [hslots, List.mem_map]
    exact ⟨fun ⟨ks, h⟩ => ⟨(s, ks), h, rfl⟩, fun ⟨p, hp, e⟩ => ⟨p.2, e ▸ hp⟩⟩

/-- **C07 (MGET)** -/
theorem C07_mget (slot : Bytes → Nat) (limit : Nat) (val : Bytes → Val) (m0 : MMsg)
    (hi : Init goTables slot m0) (hv : ∀ k, (val k).WF) (hsm : Small m0.keys.length)
    (hnd : (m0.frags.map (·.slot)).Nodup) (hne : m0.frags ≠ [])
    (hsz : ∀ s, (bodyOf slot val m0.keys s).length ≤ limit) (hfin : (finalOf val m0.keys).length ≤ limit)
    (order : List Nat) (hperm : order.Perm (m0.frags.map (·.slot))) :
    let r := feedOrder goTables goMergeConsts slot limit val m0 order m0.keys
    r.1.done = true ∧
    -- one element per requested key, in request order, as returned by the owning node
    r.1.rspBody = Spec.encReply (.array (m0.keys.map (fun k => (val k).reply))) ∧
    -- completed exactly at the last answer
    r.2 = List.replicate (order.length - 1) Signal.waiting ++ [Signal.ready] := by
  intro r
  rw [show r = _ from mget_any_order goTables goMergeConsts slot limit val (by decide) m0 hi hv hsm hnd hne hsz hfin
    order hperm]
  exact ⟨rfl, rfl, rfl⟩

/-- the result does not depend on the order the nodes answer in -/
theorem C07_mget_order_independent (slot : Bytes → Nat) (limit : Nat) (val : Bytes → Val) (m0 : MMsg)
    (hi : Init goTables slot m0) (hv : ∀ k, (val k).WF) (hsm : Small m0.keys.length)
    (hnd : (m0.frags.map (·.slot)).Nodup) (hne : m0.frags ≠ [])
    (hsz : ∀ s, (bodyOf slot val m0.keys s).length ≤ limit) (hfin : (finalOf val m0.keys).length ≤ limit)
    (o1 o2 : List Nat) (h1 : o1.Perm (m0.frags.map (·.slot))) (h2 : o2.Perm (m0.frags.map (·.slot))) :
    (feedOrder goTables goMergeConsts slot limit val m0 o1 m0.keys).1.rspBody
      = (feedOrder goTables goMergeConsts slot limit val m0 o2 m0.keys).1.rspBody :=
  (C07_mget slot limit val m0 hi hv hsm hnd hne hsz hfin o1 h1).2.1.trans
    (C07_mget slot limit val m0 hi hv hsm hnd hne hsz hfin o2 h2).2.1.symm

/-- **C07 (DEL)**: the sum of the per-node counts, in any arrival order -/
theorem C07_del (slot : Bytes → Nat) (limit : Nat) (cnt : Nat → Nat) (m0 : MMsg)
    (hi : InitDel goTables m0) (hsm : ∀ s, Small (cnt s))
    (hnd : (m0.frags.map (·.slot)).Nodup) (hne : m0.frags ≠ []) (hsz : ∀ s, (delBody cnt s).length ≤ limit)
    (order : List Nat) (hperm : order.Perm (m0.frags.map (·.slot))) :
    let r := order.foldl (fun (acc : MMsg × List Signal) s =>
          let r := onReply goTables goMergeConsts slot limit acc.1 s goTables.rInteger (delBody cnt s)
          (r.1, acc.2 ++ [r.2])) (m0, [])
    r.1.done = true ∧
    r.1.rspBody = [58] ++ itoa (((m0.frags.map (·.slot)).map cnt).sum) ++ [13, 10] ∧
    r.2 = List.replicate (order.length - 1) Signal.waiting ++ [Signal.ready] := by
  intro r
  rw [show r = _ from del_any_order goTables goMergeConsts slot limit cnt (by decide) (by decide) m0 hi hsm hnd hne hsz
    order hperm]
  exact ⟨rfl, rfl, rfl⟩

/-- **C07 (MSET)**: OK only if every node answered OK, in any arrival order -/
theorem C07_mset (slot : Bytes → Nat) (limit : Nat) (rt : Nat → Nat) (body : Nat → Bytes) (m0 : MMsg)
    (hi : InitSet goTables m0)
    (hrt : ∀ s, rt s ≠ goTables.rMoved ∧ rt s ≠ goTables.rAsk ∧ rt s ≠ goTables.rError)
    (hnd : (m0.frags.map (·.slot)).Nodup) (hne : m0.frags ≠ []) (hsz : ∀ s, (body s).length ≤ limit)
    (order : List Nat) (hperm : order.Perm (m0.frags.map (·.slot))) :
    let r := order.foldl (fun (acc : MMsg × List Signal) s =>
          let r := onReply goTables goMergeConsts slot limit acc.1 s (rt s) (body s)
          (r.1, acc.2 ++ [r.2])) (m0, [])
    r.1.done = true ∧
    (r.1.rspBody = Gen.strOK ↔ ∀ fr ∈ m0.frags, rt fr.slot = goTables.rOk) ∧
    r.2 = List.replicate (order.length - 1) Signal.waiting ++ [Signal.ready] := by
  intro r
  rw [show r = _ from mset_any_order goTables goMergeConsts slot limit rt body hrt (by decide) m0 hi hnd hne hsz order hperm]
  exact ⟨rfl, finalSet_eq_ok goTables goMergeConsts rt m0 (by decide), rfl⟩

/- non-vacuity: MGET over two slots answered in both orders, kernel-evaluated with the real slot function.
   keys "Foo" (slot 10576) and "Bar" (slot 5379); node values "1" and null -/
def exVal (k : Bytes) : Val := if k = [70, 111, 111] then .bulk [49] else .null
def exM0 : MMsg :=
  ofCMsg { type := goTables.cMget, key := [], keys := [[70, 111, 111], [66, 97, 114]],
           groups := groupBySlot goSlot [[70, 111, 111], [66, 97, 114]],
           frags := (groupBySlot goSlot [[70, 111, 111], [66, 97, 114]]).map (fun p => (p.1, encodeCmd nameMget p.2)) }
example : (feedOrder goTables goMergeConsts goSlot 1000 exVal exM0 [10576, 5379] exM0.keys).1.rspBody
    = [42, 50, 13, 10, 36, 49, 13, 10, 49, 13, 10, 36, 45, 49, 13, 10] := by decide +kernel
example : (feedOrder goTables goMergeConsts goSlot 1000 exVal exM0 [5379, 10576] exM0.keys).1.rspBody
    = [42, 50, 13, 10, 36, 49, 13, 10, 49, 13, 10, 36, 45, 49, 13, 10] := by decide +kernel

end RcVerif.Props.C07
