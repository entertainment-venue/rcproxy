import RcVerif.Lemmas.Decode
import RcVerif.Lemmas.Group
import RcVerif.Lemmas.Tables
/-
  C06 — MGET / DEL / MSET with any key list are split into exactly one
  well-formed command of the same kind per distinct slot, containing exactly the
  keys (for MSET the key/value pairs) of that slot in the original relative
  order, duplicates kept; nothing else is sent.

  Stated over the command tables regenerated from the Go source and parametric
  in the slot function (hence "over all slot layouts").
-/
namespace RcVerif.Props.C06
open RcVerif RcVerif.Resp RcVerif.CDecode RcVerif.Commands
open RcVerif.Lemmas.Decode RcVerif.Lemmas.Group RcVerif.Lemmas.Tables RcVerif.Lemmas.Frame

/-- the request type the proxy assigns -/
abbrev typeOf (name : Bytes) (args : List Bytes) : Nat := transform2Type goTables name args.length

theorem name_of_type (name : Bytes) (args : List Bytes)
    (hc : typeOf name args ∈ [goTables.cMget, goTables.cDel, goTables.cMset]) :
    (typeOf name args = goTables.cMget → toLower name = nameMget) ∧
    (typeOf name args = goTables.cDel → toLower name = nameDel) ∧
    (typeOf name args = goTables.cMset → toLower name = nameMset) := by
  have hd := special_codes_distinct _ (List.mem_append_left [goTables.cEval, goTables.cEvalsha] hc)
  obtain ⟨hl, _⟩ := transform2Type_real goTables name args.length _ rfl hd.1 hd.2.1
  exact split_names _ (lookup_mem _ _ _ hl)

/-- arity: a request typed MSET has an even number of arguments (so pairing loses nothing) -/
theorem mset_even (name : Bytes) (args : List Bytes) (h : typeOf name args = goTables.cMset) :
    args.length % 2 = 0 := by
  have hd := special_codes_distinct goTables.cMset (by simp)
  obtain ⟨_, hc⟩ := transform2Type_real goTables name args.length _ h hd.1 hd.2.1
  rw [checkArgs_spec _ _ _ mset_class (.inr (.inr rfl)), arityOK_pairs] at hc
  by_cases hok : (decide (2 ≤ args.length) && decide (args.length % 2 = 0)) = true
  · exact of_decide_eq_true (Bool.and_eq_true _ _ ▸ hok).2
  · rw [if_neg hok] at hc
    exact absurd hc.symm hd.2.1

theorem unpairs_pairs : ∀ l : List Bytes, l.length % 2 = 0 → unpairs (pairs l) = l
  | [], _ => rfl
  | [_], h => absurd h (show ¬ 1 % 2 = 0 by decide)
  | k :: v :: rest, h => by
    show k :: v :: unpairs (pairs rest) = _
    rw [unpairs_pairs rest ((Nat.add_mod_right rest.length 2).symm.trans h)]

/-- the total number of grouped items is the number of items: nothing lost, nothing duplicated -/
theorem total_group {α} (f : α → Nat) (items : List α) :
    ((groupBySlot f items).map (·.2.length)).sum = items.length := by
  refine groupBySlot_ind f (P := fun g xs => (g.map (·.2.length)).sum = xs.length) rfl (fun g xs k ih => ?_) items
  rw [total_addToGroup, ih, List.length_append]
  rfl

/-- the full statement for MGET and DEL -/
def C06_mget_del_statement : Prop :=
  ∀ (slot : Bytes → Nat) (limit : Nat) (name : Bytes) (keys : List Bytes) (t : Bytes),
    SmallReq name keys →
    (typeOf name keys = goTables.cMget ∨ typeOf name keys = goTables.cDel) →
    (Spec.encRequest (name :: keys)).length ≤ limit →
    ∃ m, decode goTables slot limit (Spec.encRequest (name :: keys) ++ t)
            = .ok m (Spec.encRequest (name :: keys)).length ∧
      m.type = typeOf name keys ∧ m.keys = keys ∧
      -- one fragment per distinct slot
      (m.frags.map (·.1)).Nodup ∧
      -- the fragment of slot s exists iff some key has slot s, and is the command of the same
      -- kind over exactly the keys of that slot, in the original order (duplicates kept)
      (∀ s req, (s, req) ∈ m.frags ↔
        (keys.filter (fun k => slot k = s) ≠ [] ∧
         req = Spec.encRequest (toLower name :: keys.filter (fun k => slot k = s)))) ∧
      -- every key occurrence is in exactly one fragment
      (m.groups.map (·.2.length)).sum = keys.length

theorem C06_mget_del : C06_mget_del_statement := by
  intro slot limit name keys t hs hty hsize
  refine ⟨_, decode_encRequest goTables slot limit name keys t hs, ?_⟩
  rw [build_split goTables slot limit name keys _ _ rfl hty, if_neg (Nat.not_lt.mpr hsize)]
  have hnm := name_of_type name keys (by rcases hty with h | h <;> simp [h])
  have hname : (if typeOf name keys = goTables.cMget then nameMget else nameDel) = toLower name := by
    rcases hty with h | h
    · rw [if_pos h, hnm.1 h]
    · rw [if_neg fun e => absurd (h.symm.trans e) (by decide), hnm.2.1 h]
  refine ⟨rfl, rfl, ?_, ?_, total_group slot keys⟩
  · rw [List.map_map]
    exact group_nodup slot keys
  · intro s req
    simp only [hname, encodeCmd_eq_spec]
    exact mem_map_group slot keys (fun ks => Spec.encRequest (toLower name :: ks)) s req

/-- the full statement for MSET: items are key/value pairs -/
def C06_mset_statement : Prop :=
  ∀ (slot : Bytes → Nat) (limit : Nat) (name : Bytes) (items : List Bytes) (t : Bytes),
    SmallReq name items →
    typeOf name items = goTables.cMset →
    (Spec.encRequest (name :: items)).length ≤ limit →
    ∃ m, decode goTables slot limit (Spec.encRequest (name :: items) ++ t)
            = .ok m (Spec.encRequest (name :: items)).length ∧
      m.type = goTables.cMset ∧
      -- the items really are all the pairs, in order
      unpairs (pairs items) = items ∧ m.keys = (pairs items).map (·.1) ∧
      (m.frags.map (·.1)).Nodup ∧
      (∀ s req, (s, req) ∈ m.frags ↔
        ((pairs items).filter (fun p => slot p.1 = s) ≠ [] ∧
         req = Spec.encRequest (toLower name :: unpairs ((pairs items).filter (fun p => slot p.1 = s))))) ∧
      ((groupBySlot (fun p : Bytes × Bytes => slot p.1) (pairs items)).map (·.2.length)).sum = (pairs items).length

theorem C06_mset : C06_mset_statement := by
  intro slot limit name items t hs hty hsize
  refine ⟨_, decode_encRequest goTables slot limit name items t hs, ?_⟩
  rw [build_mset goTables slot limit name items _ _ rfl
      (fun e => by rcases e with e | e <;> exact absurd (hty.symm.trans e) (by decide)) hty,
    if_neg (Nat.not_lt.mpr hsize)]
  have hnm := (name_of_type name items (by simp [hty])).2.2 hty
  refine ⟨hty, unpairs_pairs items (mset_even name items hty), rfl, ?_, ?_, total_group _ _⟩
  · rw [List.map_map]
    exact group_nodup _ _
  · intro s req
    simp only [← hnm, encodeCmd_eq_spec]
    exact mem_map_group _ (pairs items) (fun ps => Spec.encRequest (toLower name :: unpairs ps)) s req

/-- every fragment is a command a Redis server accepts -/
theorem fragments_wellformed (name : Bytes) (grp : List Bytes) :
    Spec.WellFormedRequest (Spec.encRequest (toLower name :: grp)) :=
  ⟨toLower name :: grp, by simp, rfl⟩

/- non-vacuity: a concrete MGET over two slots, evaluated by the kernel with the real slot function
   ("MGET Foo Bar" from the repository's own test: slots 10576 and 5379) -/
example :
    (match decode goTables goSlot 1000 (Spec.encRequest [[77, 71, 69, 84], [70, 111, 111], [66, 97, 114]]) with
     | .ok m _ => m.frags.map (·.1)
     | _ => []) = [10576, 5379] := by decide +kernel

example : typeOf [77, 71, 69, 84] [[70, 111, 111], [66, 97, 114]] = goTables.cMget := by decide +kernel

end RcVerif.Props.C06
