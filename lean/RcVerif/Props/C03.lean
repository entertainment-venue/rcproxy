import RcVerif.Props.C01
/-
  C03 — a client never receives a reply produced for a different request.

  Over all event histories (client disconnects with requests in flight, unroutable slots, expiries,
  backend closes and re-dials included):
  * `C03_queue_is_own`: every request queued on a client connection is one that was decoded on that
    very connection (and, by C01, they are its requests number k, k+1, ...);
  * `C03_flush_writes_own`: a flush writes to a connection nothing but the stored replies of the
    completed requests at the head of ITS OWN queue, in order;
  * `C03_reply_touches_only_its_request`: merging a backend reply that was framed for fragment
    `(mi, slot)` changes request `mi` only - no other request's reply bytes or completion flag can
    be affected, whoever owns it;
  * which fragment a framed reply belongs to is positional (head of the connection's awaiting queue,
    `Sim.sreadLoop`), and that queue is the FIFO of what was written (C10).
  The message pool's object reuse is not part of the model: that it cannot be observed is exactly
  what the sim correspondence view checks on the real code (a recycled request object with a live
  fragment pointing at it shows up as a model/implementation disagreement and as a provenance
  failure of the trace oracle).
-/
namespace RcVerif.Props.C03
open RcVerif RcVerif.Sim RcVerif.Merge RcVerif.Lemmas.SimInv RcVerif.Props.C01

theorem C03_queue_is_own (cfg : Cfg) (slotFn : Bytes → Nat) (pools : List (Bytes × Bool)) (table : List (Nat × Nat × RSet))
    (es : List Event) (c : Nat) (cl : Client)
    (hflag : (reach cfg slotFn pools table es).flag = none)
    (hcl : (reach cfg slotFn pools table es).clients[c]? = some cl) :
    ∀ i ∈ cl.queue, ∃ r, (reach cfg slotFn pools table es).msgs[i]? = some r ∧ r.owner = c :=
  (cinv_reach cfg slotFn pools table es hflag c cl hcl).own

/-! ### what a flush writes -/

theorem msgs_closeClient (s : State) (c : Nat) : (closeClient s c).msgs = s.msgs := rfl

/-- a flush of connection `c` does not touch any other connection -/
theorem C03_flush_other_untouched (s : State) (c c' : Nat) (hne : c' ≠ c) :
    (flushClient s c).clients[c']? = s.clients[c']? := by
  refine flushClient_cases (P := fun s' => s'.clients[c']? = s.clients[c']?) s c (fun _ => rfl)
    (fun cl _ _ _ => client_upd_other s c c' _ hne) fun cl _ _ _ => ?_
  unfold closeClient
  rw [client_upd_other _ c c' _ hne, client_upd_other s c c' _ hne]

/-- the bytes a flush adds to connection `c` are the stored replies of completed requests at the head of
    `c`'s own queue, in queue order -/
theorem C03_flush_writes_own (s : State) (c : Nat) (cl cl' : Client) (h : CInvX s none)
    (hcl : s.clients[c]? = some cl) (hcl' : (flushClient s c).clients[c]? = some cl') :
    ∃ ds rest, cl.queue = ds ++ rest ∧
      (∀ i ∈ ds, ∃ r, s.msgs[i]? = some r ∧ r.owner = c ∧ r.m.done = true) ∧
      cl'.out = cl.out ++ (ds.filterMap (fun i => (s.msgs[i]?).map (fun r => r.m.rspBody))).flatten := by
  obtain ⟨rest, hq, hdone, _⟩ := donePrefix_spec s.msgs cl.queue
  -- the record after the flush: as before, or `flushUpd`, possibly closed (which writes nothing)
  have hcases : cl' = cl ∨ cl'.out = (flushUpd s cl cl).out := by
    revert hcl'
    refine flushClient_cases (P := fun s' => s'.clients[c]? = some cl' → _) s c
      (fun _ hcl' => .inl (Option.some.inj (hcl.symm.trans hcl')).symm) (fun cl0 hcl0 _ _ hcl' => ?_) fun cl0 hcl0 _ _ hcl' => ?_
    · rw [hcl] at hcl0; cases hcl0
      rw [client_upd_same s c _ cl hcl] at hcl'
      exact .inr (congrArg Client.out (Option.some.inj hcl').symm)
    · rw [hcl] at hcl0; cases hcl0
      rw [show (closeClient _ c).clients[c]? = _ from
        client_upd_same _ c _ _ (client_upd_same s c (flushUpd s cl) cl hcl)] at hcl'
      exact .inr ((congrArg Client.out (Option.some.inj hcl').symm).trans rfl)
  rcases hcases with rfl | hout
  · exact ⟨[], cl'.queue, rfl, nofun, (List.append_nil _).symm⟩
  · refine ⟨donePrefix s.msgs cl.queue, rest, hq, fun i hi => ?_, ?_⟩
    · obtain ⟨r, hr, hd⟩ := hdone i hi
      obtain ⟨r', hr', ho⟩ := (h c cl hcl).own i (by rw [hq]; exact List.mem_append_left _ hi)
      rw [hr] at hr'; cases hr'
      exact ⟨r, hr, ho, hd⟩
    · rw [hout]
      show cl.out ++ _ = _
      rw [List.map_filterMap]
      congr 3
      funext i
      rw [Option.map_map]
      rfl

/-! ### merging a reply touches one request only -/

theorem msgs_onMoved_other (S : Strs) (cfg : Cfg) (s : State) (mi slot : Nat) (isAsk : Bool) (addr : Bytes) (mj : Nat)
    (h : mj ≠ mi) : (onMoved S cfg s mi slot isAsk addr).msgs[mj]? = s.msgs[mj]? := by
  refine onMoved_cases (P := fun s' => s'.msgs[mj]? = s.msgs[mj]?) S cfg s mi slot isAsk addr
    (fun _ => by rw [(same_fail s _).2]) (fun r e _ => ?_) (fun r p _ _ _ => ?_)
  · unfold failOne bumpRed
    rw [msgs_flushClient, msgs_upd_other _ mi mj _ h, msgs_upd_other _ mi mj _ h]
  · rw [(same_resendTo S cfg _ mi slot isAsk p).2]
    exact msgs_upd_other _ mi mj _ h

/-- **no cross-talk**: processing the reply framed for fragment `(mi, slot)` leaves every other request
    exactly as it was - its stored reply, its completion flag, its fragments -/
theorem C03_reply_touches_only_its_request (cfg : Cfg) (slotFn : Bytes → Nat) (s : State) (mi slot rtype : Nat)
    (body : Bytes) (mj : Nat) (h : mj ≠ mi) :
    (onFragReply goTables goStrs cfg slotFn s mi slot rtype body).1.msgs[mj]? = s.msgs[mj]? := by
  have h1 : ∀ m', (s.updReq mi fun r => { r with m := m' }).msgs[mj]? = s.msgs[mj]? := fun _ => msgs_upd_other _ mi mj _ h
  exact onFragReply_cases (P := fun s' => s'.msgs[mj]? = s.msgs[mj]?) goTables goStrs cfg slotFn s mi slot rtype body
    (by rw [(same_fail s _).2]) (fun _ m' _ w _ _ => by rw [(same_fail _ w).2]; exact h1 m') (fun _ m' _ _ _ _ => h1 m')
    (fun _ m' _ _ => (msgs_onMoved_other _ _ _ mi slot _ _ mj h).trans (h1 m'))
    (fun _ m' _ _ => by rw [msgs_deliver]; exact h1 m')

end RcVerif.Props.C03
