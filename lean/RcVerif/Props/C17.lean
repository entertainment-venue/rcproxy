import RcVerif.Lemmas.Decode
import RcVerif.Lemmas.Tables
/-
  C17 — a request is served iff its command (case-insensitively) is in the
  supported set, its argument count satisfies that command's arity rule and its
  own encoded size is within the limit; exactly its own bytes are consumed either
  way (so the following requests are unaffected).

  Table part: the supported name set of the REGENERATED Go table equals the
  documented one (docs/command.md "Yes" rows, also regenerated) plus AUTH, and
  its arity classes equal the frozen reference (`Lemmas.Tables`).
-/
namespace RcVerif.Props.C17
open RcVerif RcVerif.Resp RcVerif.CDecode RcVerif.Commands
open RcVerif.Lemmas.Decode RcVerif.Lemmas.Tables RcVerif.Lemmas.Frame RcVerif.Lemmas.Group

/-- the handler serves a request (forwards it, or answers PING/QUIT/AUTH itself) exactly when its
    type is a real command: `OnCReact` rejects `<= UNKNOWN`, `>= Sentinel`, too-large and wrong-arity -/
def Served (m : CMsg) : Prop :=
  goTables.cUnknown < m.type ∧ m.type < goTables.cSentinel ∧
  m.type ≠ goTables.cTooLarge ∧ m.type ≠ goTables.cWrongArgs

/-- a type the handler serves: what `Served` asks of `m.type` -/
def Real (c : Nat) : Prop :=
  goTables.cUnknown < c ∧ c < goTables.cSentinel ∧ c ≠ goTables.cTooLarge ∧ c ≠ goTables.cWrongArgs

theorem lookupB_eq (k : Bytes) (l : List (Bytes × Int)) : Spec.lookupB k l = lookup k l := by
  induction l with
  | nil => rfl
  | cons p l ih => obtain ⟨k', v⟩ := p; simp [Spec.lookupB, lookup, ih]

/-- the type `Transform2Type` assigns, in the words of the reference table: unknown for a name the table lacks;
    else the command `c` of that name if the count fits its class `cls`, and "wrong arguments" if not -/
theorem type_spec (name : Bytes) (n : Nat) :
    (lookup (toLower name) Spec.refArity = none ∧ transform2Type goTables name n = goTables.cUnknown) ∨
    ∃ c cls, lookup (toLower name) Spec.refArity = some cls ∧
      transform2Type goTables name n = (if Spec.arityOK cls n then c else goTables.cWrongArgs) ∧
      Real c ∧
      (c = goTables.cEval ↔ toLower name = Spec.nameEval) ∧
      (c = goTables.cEvalsha ↔ toLower name = Spec.nameEvalsha) := by
  unfold transform2Type
  cases hl : lookup (toLower name) goTables.str2type with
  | none =>
    refine .inl ⟨?_, rfl⟩
    cases hr : lookup (toLower name) Spec.refArity with
    | none => rfl
    | some cls =>
      have := reference_covered _ (lookup_mem _ _ _ hr)
      rw [hl] at this
      cases this
  | some c =>
    have hmem := lookup_mem _ _ _ hl
    obtain ⟨harity, hsome⟩ := arity_matches_reference _ hmem
    cases hr : lookup (toLower name) Spec.refArity with
    | none => rw [hr] at hsome; cases hsome
    | some cls =>
      rw [hr] at harity
      exact .inr ⟨c, cls, rfl, checkArgs_spec c cls n harity (ref_classes _ (lookup_mem _ _ _ hr)),
        names_real _ hmem, eval_names _ hmem⟩

def C17_statement : Prop :=
  ∀ (slot : Bytes → Nat) (limit : Nat) (name : Bytes) (args : List Bytes) (t : Bytes),
    SmallReq name args →
    ∃ m, decode goTables slot limit (Spec.encRequest (name :: args) ++ t)
            = .ok m (Spec.encRequest (name :: args)).length ∧
      (Served m ↔ (Spec.arityRule (toLower name) args.length = true ∧
                   (Spec.encRequest (name :: args)).length ≤ limit))

theorem real_ite {p : Prop} [Decidable p] {a b : Nat} (ha : ¬ Real a) : Real (if p then a else b) ↔ ¬ p ∧ Real b := by
  by_cases hp : p
  · rw [if_pos hp]; exact ⟨fun h => absurd h ha, fun h => absurd hp h.1⟩
  · rw [if_neg hp]; exact ⟨fun h => ⟨hp, h⟩, fun h => h.2⟩

theorem C17_served_iff : C17_statement := by
  intro slot limit name args t hs
  refine ⟨_, decode_encRequest goTables slot limit name args t hs, ?_⟩
  show Real _ ↔ _
  -- too large and "script without a key" give pseudo types: what is left to ask is whether the name's type is real
  rw [build_type goTables slot limit name args _ _ script_not_split, Spec.arityRule, lookupB_eq,
    real_ite (fun h => h.2.2.1 rfl), real_ite (fun h => h.2.2.2 rfl), Nat.not_lt, and_comm (b := _ ≤ limit), and_congr_right_iff]
  intro _
  rcases type_spec name args.length with ⟨hr, hty⟩ | ⟨c, cls, hr, hty, hreal, hev1, hev2⟩ <;> rw [hty, hr]
  · exact ⟨fun h => absurd h.2.1 (Nat.lt_irrefl _), nofun⟩
  dsimp only
  by_cases hok : Spec.arityOK cls args.length = true
  · -- the count fits its class: the command `c` itself, a script exactly when the name is EVAL / EVALSHA
    rw [if_pos hok, hok, Bool.true_and, hev1, hev2, and_iff_left hreal]
    simp only [Bool.or_eq_true, Bool.not_eq_true', decide_eq_true_eq, not_and, Nat.not_lt, Bool.or_eq_false_iff,
      beq_eq_false_iff_ne, ← not_or, Decidable.imp_iff_not_or]
  · rw [if_neg hok, Bool.not_eq_true _ |>.mp hok]
    exact ⟨fun h => absurd rfl h.2.2.2.2, nofun⟩

/-- rejected or served, exactly the request's own bytes are consumed: later requests are unaffected -/
theorem C17_consumes_own_bytes (slot : Bytes → Nat) (limit : Nat) (name : Bytes) (args : List Bytes)
    (t : Bytes) (hs : SmallReq name args) :
    ∃ m, decode goTables slot limit (Spec.encRequest (name :: args) ++ t)
      = .ok m (Spec.encRequest (name :: args)).length :=
  ⟨_, decode_encRequest goTables slot limit name args t hs⟩

/-- table theorems re-exported as obligations of this property (they are about the regenerated tables) -/
theorem C17_names_are_documented :
    (∀ p ∈ goTables.str2type, p.1 = [97, 117, 116, 104] ∨ (p.1, true) ∈ Gen.docRows) ∧
    (∀ r ∈ Gen.docRows, r.2 = true → (lookup r.1 goTables.str2type).isSome) := names_eq_docs

theorem C17_arity_is_reference : ∀ p ∈ goTables.str2type,
    lookup p.2 goTables.type2nargs = lookup p.1 Spec.refArity ∧ (lookup p.1 Spec.refArity).isSome :=
  arity_matches_reference

theorem C17_reference_is_table : ∀ p ∈ Spec.refArity, (lookup p.1 goTables.str2type).isSome :=
  reference_covered

theorem C17_names_lower_case : ∀ p ∈ goTables.str2type, toLower p.1 = p.1 := names_lower

/- non-vacuity -/
example : Spec.arityRule [103, 101, 116] 1 = true := by decide +kernel     -- get key
example : Spec.arityRule [103, 101, 116] 2 = false := by decide +kernel    -- get key extra
example : Spec.arityRule [107, 101, 121, 115] 1 = false := by decide +kernel  -- keys: unsupported

end RcVerif.Props.C17
