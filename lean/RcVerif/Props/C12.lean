import RcVerif.Lemmas.Decode
import RcVerif.Model.Inst
/-
  C12 (decoder level) — whatever bytes a client sends:
  * the decoder never reaches a Go panic and always returns one of
    incomplete / invalid / a request (never "no request and no error");
  * when it returns a request it consumed at least one and at most the buffered
    bytes, and every fragment it built for forwarding is a command a Redis
    server accepts (canonical RESP) — nothing Redis rejects is ever forwarded;
  * `invalid` closes the offending connection (event-loop level, see Sim).
  The statements quantify over ALL byte strings, limits and slot functions.
-/
namespace RcVerif.Props.C12
open RcVerif RcVerif.Resp RcVerif.CDecode RcVerif.Commands
open RcVerif.Lemmas.Decode RcVerif.Lemmas.Frame

/-- totality: no input makes the decoder panic -/
theorem C12_no_panic (slot : Bytes → Nat) (limit : Nat) (view : Bytes) :
    decode goTables slot limit view ≠ .panic :=
  decode_no_panic goTables slot limit view

/-- the decoder's outcome is always one of the three the event loop handles -/
theorem C12_total (slot : Bytes → Nat) (limit : Nat) (view : Bytes) :
    decode goTables slot limit view = .incomplete ∨ decode goTables slot limit view = .invalid ∨
    ∃ m n, decode goTables slot limit view = .ok m n := by
  cases h : decode goTables slot limit view with
  | incomplete => exact .inl rfl
  | invalid => exact .inr (.inl rfl)
  | panic => exact absurd h (C12_no_panic slot limit view)
  | ok m n => exact Or.inr (Or.inr ⟨m, n, rfl⟩)

/-- **nothing malformed is forwarded**: an accepted request was a canonical encoding, exactly its
    bytes were consumed, and every fragment built from it is a well-formed Redis command -/
theorem C12_accepts_only_wellformed (slot : Bytes → Nat) (limit : Nat) (view : Bytes) (m : CMsg) (n : Nat)
    (h : decode goTables slot limit view = .ok m n) :
    0 < n ∧ n ≤ view.length ∧ Spec.WellFormedRequest (view.take n) ∧
    ∀ p ∈ m.frags, Spec.WellFormedRequest p.2 := by
  obtain ⟨name, args, t, hv, _, hn, hm⟩ := decode_ok goTables slot limit view m n h
  have wf : ∀ nm ks, Spec.WellFormedRequest (encodeCmd nm ks) := fun nm ks =>
    ⟨nm :: ks, List.cons_ne_nil _ _, encodeCmd_eq_spec nm ks⟩
  have hpos := encodeCmd_length_pos name args
  refine ⟨by omega, by rw [hv, hn]; simp, ?_, ?_⟩
  · rw [hv, hn, List.take_left' rfl]
    exact wf name args
  · -- a fragment is the request itself, or a command the proxy encoded
    intro p hp
    rw [hm] at hp
    rcases build_frags _ _ _ _ _ _ _ p hp with h | ⟨nm, ks, h⟩ <;> rw [h] <;> exact wf _ _

/-- conversely, every input Redis would accept as one command is accepted (no over-rejection) -/
theorem C12_accepts_all_wellformed (slot : Bytes → Nat) (limit : Nat) (name : Bytes) (args : List Bytes)
    (t : Bytes) (hs : SmallReq name args) :
    ∃ m, decode goTables slot limit (Spec.encRequest (name :: args) ++ t)
      = .ok m (Spec.encRequest (name :: args)).length :=
  ⟨_, decode_encRequest goTables slot limit name args t hs⟩

/- witnesses of the repaired defects, evaluated by the kernel: each of these inputs is now `invalid` -/
example : decode goTables goSlot 1000 [42, 48, 13, 10] = .invalid := by decide +kernel               -- "*0\r\n"
example : decode goTables goSlot 1000 [42, 45, 49, 13, 10] = .invalid := by decide +kernel           -- "*-1\r\n"
example : decode goTables goSlot 1000 [13, 10] = .invalid := by decide +kernel                       -- "\r\n"
example : decode goTables goSlot 1000 [42, 49, 10] = .invalid := by decide +kernel                   -- "*1\n"
example : decode goTables goSlot 1000
    [42, 48, 50, 13, 10, 36, 51, 13, 10, 103, 101, 116, 13, 10, 36, 49, 13, 10, 97, 13, 10] = .invalid := by
  decide +kernel                                                                                       -- "*02…"
example : decode goTables goSlot 1000
    [42, 50, 13, 10, 36, 51, 13, 10, 103, 101, 116, 13, 10, 36, 45, 49, 13, 10] = .invalid := by
  decide +kernel                                                                                       -- "$-1" as an argument
example : decode goTables goSlot 1000 [42, 50, 13, 10, 36, 51, 13, 10, 103, 101] = .incomplete := by
  decide +kernel                                                                                       -- a proper prefix

end RcVerif.Props.C12
