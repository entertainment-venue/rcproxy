import RcVerif.Lemmas.Decode
import RcVerif.Model.Inst
/-
  C08 — request framing is independent of TCP segmentation.

  * `C08_prefix`: a proper prefix of a valid request is never an error: the
    decoder reports "incomplete" and consumes nothing.
  * `C08_suffix`: what the decoder extracts from `enc r ++ t` does not depend on
    the bytes `t` that happen to be buffered behind the request.
  * `C08_stream`: the read loop (model of `eventloop.cread` + `conn.Peek/Discard`
    at the level of "unconsumed bytes") extracts, for every pipeline and every
    way of cutting it into chunks, the same request sequence as when the whole
    pipeline arrives at once, and ends with an empty leftover.
-/
namespace RcVerif.Props.C08
open RcVerif RcVerif.Resp RcVerif.CDecode RcVerif.Commands
open RcVerif.Lemmas.Decode RcVerif.Lemmas.Frame

structure Req where
  name : Bytes
  args : List Bytes

def Req.enc (r : Req) : Bytes := Spec.encRequest (r.name :: r.args)
def Req.Ok (r : Req) : Prop := SmallReq r.name r.args

theorem C08_prefix (slot : Bytes → Nat) (limit : Nat) (r : Req) (hr : r.Ok) (p s : Bytes)
    (hs : s ≠ []) (h : p ++ s = r.enc) :
    decode goTables slot limit p = .incomplete :=
  decode_prefix goTables slot limit r.name r.args p s hr hs (h.trans (encodeCmd_eq_spec _ _).symm)

/-- what the handler receives for request `r` -/
def Req.msg (slot : Bytes → Nat) (limit : Nat) (r : Req) : CMsg :=
  build goTables slot limit r.name r.args (Spec.encRequest (toLower r.name :: r.args)) r.enc.length

theorem C08_suffix (slot : Bytes → Nat) (limit : Nat) (r : Req) (hr : r.Ok) (t : Bytes) :
    decode goTables slot limit (r.enc ++ t) = .ok (r.msg slot limit) r.enc.length :=
  decode_encRequest goTables slot limit r.name r.args t hr

/-- `eventloop.cread` on the bytes in view (leftover ++ fresh chunk): decode
    requests until the decoder reports incomplete (keep the rest as the new
    leftover) or invalid (close). Fuel bounds the loop; each iteration consumes
    at least one byte. Returns (requests, leftover, closed). -/
def drain (slot : Bytes → Nat) (limit : Nat) : Nat → Bytes → List CMsg × Bytes × Bool
  | 0, view => ([], view, false)
  | fuel + 1, view =>
    match decode goTables slot limit view with
    | .ok m n =>
      let (ms, left, closed) := drain slot limit fuel (view.drop n)
      (m :: ms, left, closed)
    | .invalid => ([], [], true)
    | .panic => ([], [], true)
    | .incomplete => ([], view, false)

/-- one readable event: the view is the old leftover followed by the fresh chunk -/
def feed (slot : Bytes → Nat) (limit : Nat) (leftover chunk : Bytes) : List CMsg × Bytes × Bool :=
  drain slot limit ((leftover ++ chunk).length + 1) (leftover ++ chunk)

def feedAll (slot : Bytes → Nat) (limit : Nat) : Bytes → List Bytes → List CMsg × Bytes × Bool
  | leftover, [] => ([], leftover, false)
  | leftover, c :: cs =>
    let (ms, left, closed) := feed slot limit leftover c
    if closed then (ms, left, true)
    else
      let (ms', left', closed') := feedAll slot limit left cs
      (ms ++ ms', left', closed')

def stream (rs : List Req) : Bytes := (rs.map Req.enc).flatten

theorem enc_length_pos (r : Req) : 0 < r.enc.length := by
  rw [Req.enc, ← encodeCmd_eq_spec]
  exact encodeCmd_length_pos r.name r.args

theorem stream_cons (r : Req) (rs : List Req) : stream (r :: rs) = r.enc ++ stream rs := rfl

/-- draining a prefix `v` of a pipeline yields the requests that are complete in `v` and keeps the bytes behind
    them, fewer than the request they begin -/
theorem drain_cut (slot : Bytes → Nat) (limit : Nat) (rs : List Req) (hrs : ∀ r ∈ rs, r.Ok) (v w : Bytes)
    (h : v ++ w = stream rs) (fuel : Nat) (hf : v.length < fuel) :
    ∃ k p, drain slot limit fuel v = ((rs.take k).map (Req.msg slot limit), p, false) ∧
      p ++ w = stream (rs.drop k) ∧ ∀ r ∈ (rs.drop k).head?, p.length < r.enc.length := by
  obtain ⟨f, rfl⟩ := Nat.exists_eq_add_one_of_ne_zero (Nat.ne_of_gt (Nat.zero_lt_of_lt hf))
  induction rs generalizing v f with
  | nil =>
    obtain ⟨rfl, rfl⟩ := List.append_eq_nil_iff.mp h
    exact ⟨0, [], rfl, rfl, nofun⟩
  | cons r rs ih =>
    have hr : r.Ok := hrs r List.mem_cons_self
    rcases prefix_cases v w r.enc (stream rs) h with ⟨t, ht, h1⟩ | ⟨q, rfl, h2⟩
    · refine ⟨0, v, ?_, h, fun r' hr' => ?_⟩
      · rw [drain, C08_prefix slot limit r hr v t ht h1]
        rfl
      · cases hr'
        exact length_lt_of_append h1 ht
    · have hq : q.length < f := by
        have := enc_length_pos r
        rw [List.length_append] at hf
        omega
      obtain ⟨f', rfl⟩ := Nat.exists_eq_add_one_of_ne_zero (Nat.ne_of_gt (Nat.zero_lt_of_lt hq))
      obtain ⟨k, p, hd, hp, hs⟩ := ih (fun x hx => hrs x (List.mem_cons_of_mem _ hx)) q h2 f' hq
      refine ⟨k + 1, p, ?_, hp, hs⟩
      rw [drain, C08_suffix slot limit r hr q]
      dsimp only
      rw [List.drop_left' rfl, hd]
      rfl

theorem C08_stream_gen (slot : Bytes → Nat) (limit : Nat) (chunks : List Bytes) :
    ∀ (rs : List Req), (∀ r ∈ rs, r.Ok) → ∀ (p : Bytes), (∀ r ∈ rs.head?, p.length < r.enc.length) →
      p ++ chunks.flatten = stream rs →
      feedAll slot limit p chunks = (rs.map (Req.msg slot limit), [], false) := by
  induction chunks with
  | nil =>
    intro rs hrs p hp h
    rw [List.flatten_nil, List.append_nil] at h
    cases rs with
    | nil => rw [h]; rfl
    | cons r rs =>
      -- the leftover would be the whole of the request it is a part of
      have := hp r rfl
      rw [h, stream_cons, List.length_append] at this
      omega
  | cons c cs ih =>
    intro rs hrs p _ h
    obtain ⟨k, p', hd, hp', hs⟩ := drain_cut slot limit rs hrs (p ++ c) cs.flatten
      (by rw [List.append_assoc]; exact h) _ (Nat.lt_succ_self _)
    rw [feedAll, feed, hd]
    dsimp only
    rw [ih (rs.drop k) (fun r hr => hrs r (List.mem_of_mem_drop hr)) p' hs hp']
    simp only [Bool.false_eq_true, ↓reduceIte, ← List.map_append, List.take_append_drop]

/-- **C08**: for every pipeline of valid requests and every way of cutting its bytes into
    chunks, the read loop extracts exactly the requests, in order, none lost, duplicated or
    altered, and nothing is left over -/
theorem C08_stream (slot : Bytes → Nat) (limit : Nat) (rs : List Req) (hrs : ∀ r ∈ rs, r.Ok)
    (chunks : List Bytes) (h : chunks.flatten = stream rs) :
    feedAll slot limit [] chunks = (rs.map (Req.msg slot limit), [], false) :=
  C08_stream_gen slot limit chunks rs hrs [] (fun r _ => enc_length_pos r) h

/- non-vacuity: "GET a" then "PING" cut in the middle of the first request, kernel-evaluated -/
example :
    let r1 : Req := ⟨[71, 69, 84], [[97]]⟩
    let r2 : Req := ⟨[112, 105, 110, 103], []⟩
    let s := stream [r1, r2]
    (feedAll goSlot 1000 [] [s.take 7, s.drop 7]).1.map (·.type) = [7, goTables.cPing] := by
  decide +kernel

end RcVerif.Props.C08
