import RcVerif.Props.C01
/-
  C13 — MOVED and ASK redirects are followed transparently and terminate.

  * `C13_redirect_not_merged`: a MOVED/ASK reply is never merged into the request - no client byte comes from it;
  * `C13_followed`: a redirect naming a known node re-queues the fragment, with its original request bytes, at the
    tail of the pending queue of an open connection of that node's pool (`poolGet_open`), ASKING directly before it
    for ASK; with C10 (`stream`, queue order = wire order) the node receives `ASKING` immediately followed by the
    request;
  * `C13_bounded` / `C13_unknown_node`: the redirect counter of the fragment goes up by one per redirect followed;
    at `maxRedirects` (the Go constant, regenerated) the request is completed with an error instead - so a
    redirect loop ends; a redirect to an unknown node completes the request with an error as well;
  * once, and in pipeline order: the invariants of C01/C09 hold for ALL histories, redirects included
    (`C13_once_in_order`), and a reply that arrives for a request already completed is dropped (C16).
  The count over whole histories - no fragment is ever re-sent more than `maxRedirects` times, for any mix of MOVED
  and ASK between any nodes - is `C13_resend_bound` in `Props/C13Bound.lean` (an invariant over `Sim.step`).
-/
namespace RcVerif.Props.C13
open RcVerif RcVerif.Sim RcVerif.Merge RcVerif.Lemmas.SimInv RcVerif.Lemmas.MergeBasic RcVerif.Props.C01

/-- a MOVED / ASK reply is never merged into the request: it only records the reply type and signals the
    redirect; the reply body, the counters and every fragment's `done` flag are untouched, so the client never
    sees it (the final node's reply is what gets merged, later) -/
theorem C13_redirect_not_merged (T : Tables) (K : Merge.Consts) (slotFn : Bytes → Nat) (limit : Nat) (m : MMsg)
    (slot rtype : Nat) (body : Bytes) (f : MFrag) (hf : getFrag m slot = some f) (hd : f.done = false)
    (hr : rtype = T.rMoved ∨ rtype = T.rAsk) :
    onReply T K slotFn limit m slot rtype body = (setFrag m slot (fun x => { x with rtype := rtype }), .redirect) ∧
    (setFrag m slot (fun x => { x with rtype := rtype })).rspBody = m.rspBody ∧
    (setFrag m slot (fun x => { x with rtype := rtype })).done = m.done ∧
    (setFrag m slot (fun x => { x with rtype := rtype })).fragDone = m.fragDone ∧
    (setFrag m slot (fun x => { x with rtype := rtype })).frags.map (fun x => (x.slot, x.req, x.done, x.rsp, x.redirects)) =
      m.frags.map (fun x => (x.slot, x.req, x.done, x.rsp, x.redirects)) := by
  refine ⟨?_, rfl, rfl, rfl, ?_⟩
  · unfold onReply
    rw [hf]
    simp only [hd, Bool.false_eq_true, ↓reduceIte, hr]
  · unfold setFrag
    simp only [List.map_map]
    apply List.map_congr_left
    intro x _
    simp only [Function.comp]
    split <;> rfl

/-- the redirect counter of a fragment -/
def redOf (m : MMsg) (slot : Nat) : Nat := ((getFrag m slot).map (·.redirects)).getD 0

/-- the entries a redirect queues: for ASK, ASKING first and the request directly behind it -/
def resend (S : Strs) (mi slot : Nat) (isAsk : Bool) (req : Bytes) : List QEntry :=
  (if isAsk then [{ ref := .asking, bytes := S.asking }] else []) ++ [{ ref := .frag mi slot, bytes := req }]

theorem redirects_of {m : MMsg} {slot : Nat} {fr : MFrag} (h : getFrag m slot = some fr) :
    ((getFrag m slot).map (·.redirects)).getD 0 = fr.redirects := by rw [h]; rfl

/-- queueing the entries `es` on connection `b`, one after the other -/
theorem enqueue_all (b : Nat) (es : List QEntry) : ∀ s : State,
    (∀ x, s.backends[b]? = some x → (es.foldl (fun st e => enqueueOut st b e) s).backends[b]? =
      some { x with outQ := x.outQ ++ es, enq := x.enq ++ es }) ∧
    (∀ j, j ≠ b → (es.foldl (fun st e => enqueueOut st b e) s).backends[j]? = s.backends[j]?) ∧
    SameCM s (es.foldl (fun st e => enqueueOut st b e) s) := by
  induction es with
  | nil => exact fun s => ⟨fun x hx => by simpa using hx, fun _ _ => rfl, SameCM.refl s⟩
  | cons e es ih =>
    intro s
    obtain ⟨h1, h2, h3⟩ := ih (enqueueOut s b e)
    refine ⟨fun x hx => ?_, fun j hj => (h2 j hj).trans (backend_upd_other s b j _ hj), (same_enqueueOut s b e).trans h3⟩
    rw [List.foldl_cons, h1 _ (backend_upd_same s b _ x hx)]
    simp

/-- **followed**: a redirect naming a known node, within the bound, re-queues the fragment on the connection
    `Pool.Get` returns for that node's pool: at the tail of its pending queue, ASKING directly before it for ASK,
    carrying the very bytes of the original request; the redirect counter goes up by one; nothing is written
    to any client -/
theorem C13_followed (S : Strs) (cfg : Cfg) (s : State) (mi slot : Nat) (isAsk : Bool) (addr : Bytes)
    (r : Req) (fr : MFrag) (p : Nat) (hr : s.msgs[mi]? = some r) (hfr : getFrag r.m slot = some fr)
    (hred : fr.redirects + 1 ≤ S.maxRedirects) (hp : findPool s.pools addr = some p) :
    let s1 := s.updReq mi (fun r => { r with m := setFrag r.m slot (fun f => { f with redirects := f.redirects + 1 }) })
    let g := poolGet S cfg s1 p
    let s' := onMoved S cfg s mi slot isAsk addr
    (∀ x, g.1.backends[g.2]? = some x →
        s'.backends[g.2]? = some { x with outQ := x.outQ ++ resend S mi slot isAsk fr.req,
                                           enq := x.enq ++ resend S mi slot isAsk fr.req }) ∧
    (∀ j, j ≠ g.2 → s'.backends[j]? = g.1.backends[j]?) ∧
    s'.clients = s.clients ∧
    s'.msgs[mi]? = some { r with m := setFrag r.m slot (fun f => { f with redirects := f.redirects + 1 }) } := by
  intro s1 g s'
  have hbytes : fragReq S s1 (.frag mi slot) = fr.req := by
    unfold fragReq State.req
    dsimp only
    rw [show s1.msgs[mi]? = some _ from msgs_upd_same s mi _ r hr]
    dsimp only
    rw [getFrag_setFrag r.m slot (fun f => { f with redirects := f.redirects + 1 }) (fun _ => rfl), if_pos rfl, hfr]
    rfl
  have hs' : s' = (resend S mi slot isAsk fr.req).foldl (fun st e => enqueueOut st g.2 e) g.1 := by
    show onMoved S cfg s mi slot isAsk addr = _
    rw [onMoved_eq S cfg s mi slot isAsk addr r hr, redirects_of hfr, if_neg (Nat.not_lt.mpr hred), hp, ← hbytes]
    cases isAsk <;> rfl
  obtain ⟨h1, h2, h3⟩ := enqueue_all g.2 (resend S mi slot isAsk fr.req) g.1
  rw [hs']
  refine ⟨h1, h2, h3.1.trans (same_poolGet S cfg s1 p).1, ?_⟩
  rw [h3.2, (same_poolGet S cfg s1 p).2]
  exact msgs_upd_same s mi _ r hr

/-- completed with the error `e`: done, answered with `e`, every fragment done (later replies are dropped) -/
def FailedWith (e : Bytes) (r : Req) : Prop :=
  r.m.done = true ∧ r.m.rspBody = e ∧ ∀ x ∈ r.m.frags, x.done = true

/-- the failing branch of `OnMoved` -/
theorem failOne_fails (s : State) (mi slot : Nat) (r : Req) (e : Bytes) (owner : Nat) (hr : s.msgs[mi]? = some r) :
    (failOne s mi slot e owner).backends = s.backends ∧
    ∃ r', (failOne s mi slot e owner).msgs[mi]? = some r' ∧ FailedWith e r' ∧ r'.owner = r.owner ∧ r'.num = r.num := by
  refine ⟨(cs_failOne s mi slot e owner).backends, { r with m := failedMsg e r.m slot }, ?_,
    ⟨rfl, rfl, failedMsg_frags_done e r.m slot⟩, rfl, rfl⟩
  show (flushClient _ _).msgs[mi]? = _
  rw [msgs_flushClient]
  exact msgs_upd_same s mi _ r hr

/-- **terminates**: once a fragment has been redirected `maxRedirects` times, the next redirect is not followed:
    the request is completed with the too-many-redirects error (and flushed), nothing is queued -/
theorem C13_bounded (S : Strs) (cfg : Cfg) (s : State) (mi slot : Nat) (isAsk : Bool) (addr : Bytes)
    (r : Req) (fr : MFrag) (hr : s.msgs[mi]? = some r) (hfr : getFrag r.m slot = some fr)
    (hred : fr.redirects + 1 > S.maxRedirects) :
    (onMoved S cfg s mi slot isAsk addr).backends = s.backends ∧
    ∃ r', (onMoved S cfg s mi slot isAsk addr).msgs[mi]? = some r' ∧ FailedWith S.errTooManyRedirects r' ∧
      r'.owner = r.owner ∧ r'.num = r.num := by
  rw [onMoved_eq S cfg s mi slot isAsk addr r hr, redirects_of hfr, if_pos hred]
  -- (`exact` would unify the `r` of `failOne_fails` from the goal's `r.owner` first)
  have := failOne_fails (bumpRed s mi slot) mi slot _ S.errTooManyRedirects r.owner (msgs_bumpRed s mi slot r hr)
  exact this

/-- a redirect naming a node the proxy has no pool for is not followed either: the request is completed with an
    error instead of being dropped (also part of C15) -/
theorem C13_unknown_node (S : Strs) (cfg : Cfg) (s : State) (mi slot : Nat) (isAsk : Bool) (addr : Bytes)
    (r : Req) (fr : MFrag) (hr : s.msgs[mi]? = some r) (hfr : getFrag r.m slot = some fr)
    (hred : fr.redirects + 1 ≤ S.maxRedirects) (hp : findPool s.pools addr = none) :
    (onMoved S cfg s mi slot isAsk addr).backends = s.backends ∧
    ∃ r', (onMoved S cfg s mi slot isAsk addr).msgs[mi]? = some r' ∧ FailedWith S.errUnknownPool r' ∧
      r'.owner = r.owner ∧ r'.num = r.num := by
  rw [onMoved_eq S cfg s mi slot isAsk addr r hr, redirects_of hfr, if_neg (Nat.not_lt.mpr hred), hp]
  have := failOne_fails (bumpRed s mi slot) mi slot _ S.errUnknownPool r.owner (msgs_bumpRed s mi slot r hr)
  exact this

/-- `Pool.Get` hands out an open connection (closed ones are evicted, a new one is dialled if none is left) -/
theorem poolGet_open (S : Strs) (cfg : Cfg) (s : State) (p : Nat) (pool : Pool) (hp : s.pools[p]? = some pool) :
    ∃ b, (poolGet S cfg s p).1.backends[(poolGet S cfg s p).2]? = some b ∧ b.opened = true :=
  Sim.poolGet_open S cfg s p pool hp

/-- once and in pipeline order, for every history (redirects are ordinary events of the machine) -/
theorem C13_once_in_order : C01_statement := C01

/- non-vacuity, kernel-evaluated on the model with the real tables: GET a is answered ASK by node m, re-sent to
   node n behind ASKING, and the client receives only n's reply -/
def exCfg : Cfg := { limit := 1000, timeout := false, passwd := [], disableSlave := true, maxActive := 1 }
def getA : Bytes := [42, 50, 13, 10, 36, 51, 13, 10, 103, 101, 116, 13, 10, 36, 49, 13, 10, 97, 13, 10]
def askN : Bytes := [45, 65, 83, 75, 32, 49, 53, 52, 57, 53, 32, 110, 13, 10]          -- "-ASK 15495 n\r\n"
def movedM : Bytes := [45, 77, 79, 86, 69, 68, 32, 49, 53, 52, 57, 53, 32, 109, 13, 10] -- "-MOVED 15495 m\r\n"
def exPools : List (Bytes × Bool) := [([109], false), ([110], false)]
def exTable : List (Nat × Nat × RSet) := [(0, 16383, { master := [109], slaves := [] })]
def exAsk : List Event :=
  [.connect true, .clientBytes 0 getA [{ visit := [(15495, [109])] }], .runTasks,
   .backendBytes 0 askN, .runTasks,
   .backendBytes 1 [43, 79, 75, 13, 10, 36, 49, 13, 10, 118, 13, 10]]
example :
    let s := reach exCfg goSlot exPools exTable exAsk
    s.flag = none ∧ s.clients.map (·.out) = [[36, 49, 13, 10, 118, 13, 10]] ∧
    s.backends.map (·.out) = [getA, Gen.reqAsking ++ getA] := by
  decide +kernel

/- a redirect loop (node m keeps answering MOVED to itself) ends after `maxRedirects` re-sends with the error -/
def exLoop : List Event :=
  [.connect true, .clientBytes 0 getA [{ visit := [(15495, [109])] }], .runTasks] ++
  (List.replicate 17 [Event.backendBytes 0 movedM, Event.runTasks]).flatten
example :
    let s := reach exCfg goSlot exPools exTable exLoop
    s.flag = none ∧ s.clients.map (·.out) = [Gen.strErrTooManyRedirects] ∧
    s.backends.map (fun b => b.sent.length) = [17, 0] := by
  decide +kernel

end RcVerif.Props.C13
