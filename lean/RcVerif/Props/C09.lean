import RcVerif.Props.C01
/-
  C09 — completed replies are delivered promptly, not withheld by later requests.

  Safety form over all event histories: after EVERY event, on every open client connection the
  request at the head of the queue is not complete - i.e. the moment the backends have answered a
  request and all earlier ones, those replies have been written (within the same event-loop
  iteration), however many further requests are queued behind them. The wall-clock latency of one
  iteration is not modelled.
-/
namespace RcVerif.Props.C09
open RcVerif RcVerif.Sim RcVerif.Lemmas.SimInv RcVerif.Props.C01

def C09_statement : Prop :=
  ∀ (cfg : Cfg) (slotFn : Bytes → Nat) (pools : List (Bytes × Bool)) (table : List (Nat × Nat × RSet))
    (es : List Event) (c : Nat) (cl : Client),
    (reach cfg slotFn pools table es).flag = none →
    (reach cfg slotFn pools table es).clients[c]? = some cl → cl.opened = true →
      -- no completed request is waiting at the head of the queue
      donePrefix (reach cfg slotFn pools table es).msgs cl.queue = []

theorem C09 : C09_statement := by
  intro cfg slotFn pools table es c cl hflag hcl hop
  exact (donePrefix_eq_nil_iff _ _).mpr ((cinv_reach cfg slotFn pools table es hflag c cl hcl).head rfl hop)

/-- in particular a flush has nothing left to deliver: every reply that could be delivered has been -/
theorem C09_nothing_withheld (cfg : Cfg) (slotFn : Bytes → Nat) (pools : List (Bytes × Bool)) (table : List (Nat × Nat × RSet))
    (es : List Event) (c : Nat) (cl : Client)
    (hflag : (reach cfg slotFn pools table es).flag = none)
    (hcl : (reach cfg slotFn pools table es).clients[c]? = some cl) (hop : cl.opened = true) :
    flushClient (reach cfg slotFn pools table es) c = reach cfg slotFn pools table es :=
  flushClient_idle _ c fun cl' hcl' _ => by cases hcl.symm.trans hcl'; exact C09 cfg slotFn pools table es c cl hflag hcl hop

/- non-vacuity: GET a; GET b on two nodes, only a answered: a's reply is already on the wire (the repaired defect) -/
def exEvents : List Event :=
  [.connect true,
   .clientBytes 0 [42, 50, 13, 10, 36, 51, 13, 10, 103, 101, 116, 13, 10, 36, 49, 13, 10, 97, 13, 10,
                   42, 50, 13, 10, 36, 51, 13, 10, 103, 101, 116, 13, 10, 36, 49, 13, 10, 98, 13, 10]
     [{ visit := [(15495, [110])] }, { visit := [(3300, [109])] }],
   .runTasks,
   .backendBytes 1 [36, 49, 13, 10, 118, 13, 10]]
example :
    let s := reach exCfg goSlot [([109], false), ([110], false)]
      [(0, 8191, { master := [109], slaves := [] }), (8192, 16383, { master := [110], slaves := [] })] exEvents
    s.flag = none ∧ s.clients.map (·.out) = [[36, 49, 13, 10, 118, 13, 10]] ∧ s.clients.map (·.queue.length) = [1] := by
  decide +kernel

end RcVerif.Props.C09
