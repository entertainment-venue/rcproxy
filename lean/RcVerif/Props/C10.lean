import RcVerif.Lemmas.SimBack
import RcVerif.Props.C01
/-
  C10 — requests from one client reach each node in the order sent.

  Stated over ALL histories of the event-loop machine (`Sim.run` from `Sim.init`): any number of clients,
  any interleaving of client reads, write signals, backend replies, redirects, closes and expiries, and any
  admissible routing choice. For every redis connection the proxy ever opened:

   * the byte stream written to it is its handshake followed by the request bytes of the fragments written,
     in the order they were queued (`EnqueueOutFrag` order): the write signal drains head-first, nothing overtakes;
   * the order in which replies are matched (`inFragQueue`) is that same written order;
   * the fragments queued directly by one client's requests appear in that queue in request order, and each
     is a fragment of the request it is numbered after.

  "One connection per node" (`maxActive = 1`): `C10_one_connection` shows `Pool.Get` keeps returning the one
  open connection, so per-connection order is per-node order.
-/
namespace RcVerif.Props.C10
open RcVerif RcVerif.Sim RcVerif.Lemmas.SimBack RcVerif.Props.C01

def C10_statement : Prop :=
  ∀ (cfg : Cfg) (slotFn : Bytes → Nat) (pools : List (Bytes × Bool)) (table : List (Nat × Nat × RSet))
    (es : List Event) (i : Nat) (b : Backend),
    (reach cfg slotFn pools table es).backends[i]? = some b →
      -- what the node received: the handshake, then the written fragments, in written order
      b.out = b.hs ++ (b.sent.map (·.bytes)).flatten ∧
      -- written order is queue order: what was written is a prefix of what was queued ...
      (∃ lost, b.enq = b.sent ++ lost) ∧
      -- ... and on an open connection nothing queued is skipped: the rest is exactly the pending queue
      (b.opened = true → b.enq = b.sent ++ b.outQ) ∧
      -- replies are matched in written order
      (b.opened = true → ∃ answered, b.sent.map (·.ref) = answered ++ b.inQ) ∧
      -- each client's directly queued fragments are in request order
      (∀ c, (numsOf c b.enq).Pairwise (· ≤ ·)) ∧
      -- and each is a fragment of the request it is numbered after
      (∀ e ∈ b.enq, ∀ c n, e.direct = some (c, n) → ∃ id slot r, e.ref = .frag id slot ∧
          (reach cfg slotFn pools table es).msgs[id]? = some r ∧ r.owner = c ∧ r.num = n)

theorem C10 : C10_statement := by
  intro cfg slotFn pools table es i b hb
  have hB := binv_run goTables goStrs cfg slotFn es _ (binv_init goStrs cfg pools table) i b hb
  have hD := dinv_run goTables goStrs cfg slotFn es _ (dinv_init goStrs cfg pools table) i b hb
  refine ⟨hB.stream, hB.pre, hB.queued, hB.await, hD.2, fun e he c n hd => (hD.1 e he c n hd).2⟩

/-- corollary, in terms of positions: of two fragments that requests number `n1 < n2` of one client queued to a
    connection, the earlier request's comes first - so a pipelined write is written to the master's connection
    before the read of the same key that follows it -/
theorem C10_earlier_first (cfg : Cfg) (slotFn : Bytes → Nat) (pools : List (Bytes × Bool)) (table : List (Nat × Nat × RSet))
    (es : List Event) (i : Nat) (b : Backend) (hb : (reach cfg slotFn pools table es).backends[i]? = some b)
    (j k : Nat) (e1 e2 : QEntry) (c n1 n2 : Nat) (h1 : b.enq[j]? = some e1) (h2 : b.enq[k]? = some e2)
    (hd1 : e1.direct = some (c, n1)) (hd2 : e2.direct = some (c, n2)) (hlt : n1 < n2) : j < k := by
  have hp := (C10 cfg slotFn pools table es i b hb).2.2.2.2.1 c
  unfold numsOf at hp
  rw [List.pairwise_filterMap] at hp
  rcases Nat.lt_trichotomy j k with h | h | h
  · exact h
  · subst h; rw [h1] at h2; injection h2 with h2; subst h2
    rw [hd1] at hd2; injection hd2 with hd2; injection hd2 with _ hd2; omega
  · exfalso
    obtain ⟨hk, hk'⟩ := List.getElem?_eq_some_iff.mp h2
    obtain ⟨hj, hj'⟩ := List.getElem?_eq_some_iff.mp h1
    have := (List.pairwise_iff_getElem.mp hp) k j hk hj h
    rw [hk', hj'] at this
    have := this n2 (by simp [hd2]) n1 (by simp [hd1])
    omega

/-- the same order on the wire: the fragments written so far are a prefix of that queue -/
theorem C10_written_in_order (cfg : Cfg) (slotFn : Bytes → Nat) (pools : List (Bytes × Bool)) (table : List (Nat × Nat × RSet))
    (es : List Event) (i : Nat) (b : Backend) (hb : (reach cfg slotFn pools table es).backends[i]? = some b) (c : Nat) :
    (numsOf c b.sent).Pairwise (· ≤ ·) := by
  obtain ⟨_, ⟨lost, hl⟩, _, _, hp, _⟩ := C10 cfg slotFn pools table es i b hb
  have := hp c
  rw [hl, numsOf_append, List.pairwise_append] at this
  exact this.1

/-- one connection per node: while the pool's only connection is open, `Pool.Get` returns it -/
theorem C10_one_connection (S : Strs) (cfg : Cfg) (s : State) (p id : Nat) (pool : Pool) (b : Backend)
    (hmax : cfg.maxActive = 1) (hp : s.pools[p]? = some pool) (ha : pool.active = [id])
    (hb : s.backends[id]? = some b) (ho : b.opened = true) :
    (poolGet S cfg s p).2 = id ∧ (poolGet S cfg s p).1.backends = s.backends := by
  unfold poolGet
  rw [hp]
  simp only [ha, hmax, List.length_cons, List.length_nil, Nat.lt_irrefl, ↓reduceIte]
  simp [rotate, hb, ho]

/- non-vacuity: two clients pipeline SET/GET to one node with interleaved reads; per client the written order is
   the request order. Evaluated by the kernel on the model with the real tables. -/
def exCfg : Cfg := { limit := 1000, timeout := false, passwd := [], disableSlave := true, maxActive := 1 }
def setA : Bytes := [42, 51, 13, 10, 36, 51, 13, 10, 115, 101, 116, 13, 10, 36, 49, 13, 10, 97, 13, 10, 36, 49, 13, 10, 120, 13, 10]
def getA : Bytes := [42, 50, 13, 10, 36, 51, 13, 10, 103, 101, 116, 13, 10, 36, 49, 13, 10, 97, 13, 10]
def ch : ReqChoice := { visit := [(15495, [109])] }
def exEvents : List Event :=
  [.connect true, .connect true,
   .clientBytes 0 (setA ++ getA) [ch, ch],
   .clientBytes 1 getA [ch],
   .runTasks,
   .clientBytes 1 (setA ++ getA) [ch, ch],
   .clientBytes 0 getA [ch],
   .runTasks]
example :
    let s := reach exCfg goSlot [([109], false)] [(0, 16383, { master := [109], slaves := [] })] exEvents
    s.flag = none ∧
    s.backends.map (fun b => (numsOf 0 b.sent, numsOf 1 b.sent)) = [([0, 1, 2], [0, 1, 2])] ∧
    s.backends.map (fun b => b.out) = [setA ++ getA ++ getA ++ setA ++ getA ++ getA] := by
  decide +kernel

end RcVerif.Props.C10
