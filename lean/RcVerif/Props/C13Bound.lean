import RcVerif.Lemmas.SimRedir
import RcVerif.Props.C01
/-
  C13, termination over whole histories ("redirect handling always terminates").

  For EVERY history of the event-loop machine (any interleaving of requests, replies, MOVED / ASK redirects to any
  nodes, closes, expiries) and every fragment of every request: the number of times the fragment has been re-queued
  by a redirect is at most its redirect counter and at most `maxRedirects` (the Go constant, regenerated: 16).
  With `C13_bounded` (at the bound the request is completed with an error instead) a redirect loop - MOVED or ASK,
  between any nodes - ends after at most `maxRedirects` re-sends.
-/
namespace RcVerif.Props.C13
open RcVerif RcVerif.Sim RcVerif.Lemmas.SimRedir RcVerif.Props.C01

/-- **C13, bound**: over all histories, no fragment is ever re-sent more than `maxRedirects` times -/
theorem C13_resend_bound (cfg : Cfg) (slotFn : Bytes → Nat) (pools : List (Bytes × Bool)) (table : List (Nat × Nat × RSet))
    (es : List Event) (mi slot : Nat) :
    resends (reach cfg slotFn pools table es) mi slot ≤ Gen.maxRedirects ∧
    resends (reach cfg slotFn pools table es) mi slot ≤ red (reach cfg slotFn pools table es) mi slot :=
  (Nat.le_min.mp (rinv_run goTables goStrs cfg slotFn es _ (rinv_init goStrs cfg pools table) mi slot)).symm

/-- the counter is written by redirect handling only: a reply merge keeps every fragment's counter -/
theorem C13_counter_untouched_by_replies (slotFn : Bytes → Nat) (limit : Nat) (m : Merge.MMsg) (slot rtype : Nat) (body : Bytes)
    (slot' : Nat) :
    RcVerif.Props.C13.redOf (Merge.onReply goTables goMergeConsts slotFn limit m slot rtype body).1 slot' =
      RcVerif.Props.C13.redOf m slot' :=
  redOf_of_advances (Lemmas.MergeBasic.onReply_ok goTables goMergeConsts slotFn limit m slot rtype body).adv slot'

/- non-vacuity: after the 17-redirect MOVED loop of `C13.exLoop` the fragment has been re-sent exactly 16 times -/
example :
    resends (reach exCfg goSlot exPools exTable exLoop) 0 15495 = 16 ∧
    red (reach exCfg goSlot exPools exTable exLoop) 0 15495 = 17 := by decide +kernel

end RcVerif.Props.C13
