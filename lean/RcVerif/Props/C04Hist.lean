import RcVerif.Lemmas.SimRoute
import RcVerif.Props.C01
/-
  C04 over whole histories of the event-loop machine, and the "to that node" half of C13.

  * `C04_history`: in every reachable state, every fragment that a client request queued directly sits in the queue
    history of a connection whose node is the master or a replica of the replica set owning the fragment's slot in
    the proxy's topology (the role rules - writes, scans and scripts to the master - are `C04_master_when_required`
    etc. on `route`, which the machine consults through `routeAdmissible`);
  * `C04_pooled_connections`: every pooled connection is a connection to its pool's node;
  * `C13_resend_to_named_node`: the connection `OnMoved` re-queues a redirected fragment on is an open connection
    to the very node the redirect named.
-/
namespace RcVerif.Props.C04
open RcVerif RcVerif.Sim RcVerif.Lemmas.SimRoute RcVerif.Props.C01

theorem j_reach (cfg : Cfg) (slotFn : Bytes → Nat) (pools : List (Bytes × Bool)) (table : List (Nat × Nat × RSet))
    (es : List Event) : J (reach cfg slotFn pools table es) :=
  j_run goTables goStrs cfg slotFn es _ (j_init goStrs cfg pools table)

theorem C04_history (cfg : Cfg) (slotFn : Bytes → Nat) (pools : List (Bytes × Bool)) (table : List (Nat × Nat × RSet))
    (es : List Event) (i : Nat) (b : Backend) (e : QEntry) (id slot : Nat)
    (hb : (reach cfg slotFn pools table es).backends[i]? = some b) (he : e ∈ b.enq)
    (hd : e.direct.isSome = true) (href : e.ref = .frag id slot) :
    ∃ rs, slotOwner (reach cfg slotFn pools table es).table slot = some rs ∧ (b.addr = rs.master ∨ b.addr ∈ rs.slaves) :=
  (j_reach cfg slotFn pools table es).2 i b e hb he hd id slot href

theorem C04_pooled_connections (cfg : Cfg) (slotFn : Bytes → Nat) (pools : List (Bytes × Bool)) (table : List (Nat × Nat × RSet))
    (es : List Event) (p : Nat) (pool : Pool) (id : Nat)
    (hp : (reach cfg slotFn pools table es).pools[p]? = some pool) (hid : id ∈ pool.active) :
    ∃ b, (reach cfg slotFn pools table es).backends[id]? = some b ∧ b.addr = pool.addr :=
  (j_reach cfg slotFn pools table es).1 p pool id hp hid

/-- the re-send of a redirected fragment goes to an open connection of the node the redirect named -/
theorem C13_resend_to_named_node (cfg : Cfg) (slotFn : Bytes → Nat) (pools : List (Bytes × Bool)) (table : List (Nat × Nat × RSet))
    (es : List Event) (addr : Bytes) (p : Nat)
    (hp : findPool (reach cfg slotFn pools table es).pools addr = some p) :
    let s := reach cfg slotFn pools table es
    ∃ b, (poolGet goStrs cfg s p).1.backends[(poolGet goStrs cfg s p).2]? = some b ∧ b.addr = addr ∧ b.opened = true := by
  intro s
  obtain ⟨pool, hpool, hpa, _⟩ := findPool_spec s.pools addr p hp
  obtain ⟨_, hget⟩ := j_poolGet goStrs cfg s p (j_reach cfg slotFn pools table es)
  obtain ⟨b, hb, hba⟩ := hget pool hpool
  obtain ⟨b2, hb2, ho⟩ := Sim.poolGet_open goStrs cfg s p pool hpool
  rw [hb] at hb2; injection hb2 with hb2; subst hb2
  exact ⟨b, hb, by rw [hba, hpa], ho⟩

end RcVerif.Props.C04
