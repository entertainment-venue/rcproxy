import RcVerif.Lemmas.Decode
import RcVerif.Lemmas.Reply
import RcVerif.Lemmas.MergeBasic
import RcVerif.Lemmas.Tables
import RcVerif.Model.SimInst
/-
  C02 — single-key requests and their replies pass through byte-exact.

  * request: for every supported single-key command, any argument bytes and any trailing data,
    the one fragment built is the client's request with only the command name lower-cased,
    filed under the slot of its key;
  * reply: every well-formed RESP2 reply value (status, error, integer, bulk, null, arrays nested
    to any depth) is framed exactly, whatever follows it, and - unless it is a redirect - becomes
    the client's reply verbatim; above the size limit it is replaced by the too-large error.
-/
namespace RcVerif.Props.C02
open RcVerif RcVerif.Resp RcVerif.CDecode RcVerif.Commands RcVerif.Merge RcVerif.SDecode RcVerif.Spec
open RcVerif.Lemmas.Decode RcVerif.Lemmas.Frame RcVerif.Lemmas.Reply RcVerif.Lemmas.MergeBasic RcVerif.Lemmas.Tables

/-- lower-casing only touches letter case -/
theorem lower_only_case (b : UInt8) : lowerByte b = b ∨ (65 ≤ b ∧ b ≤ 90 ∧ lowerByte b = b ^^^ 0x20) := by
  unfold lowerByte
  split
  · rename_i h; exact Or.inr ⟨h.1, h.2, rfl⟩
  · exact Or.inl rfl

/-- a single-key request type: a real command that is not split, not a script and not answered locally -/
def SingleKey (ty : Nat) : Prop :=
  ty ≠ goTables.cUnknown ∧ ty ≠ goTables.cWrongArgs ∧ ty ≠ goTables.cMget ∧ ty ≠ goTables.cDel ∧
  ty ≠ goTables.cMset ∧ ty ≠ goTables.cEval ∧ ty ≠ goTables.cEvalsha

theorem C02_request (slot : Bytes → Nat) (limit : Nat) (name key : Bytes) (args : List Bytes) (t : Bytes)
    (hs : SmallReq name (key :: args))
    (hty : SingleKey (transform2Type goTables name (key :: args).length))
    (hsize : (Spec.encRequest (name :: key :: args)).length ≤ limit) :
    ∃ m, decode goTables slot limit (Spec.encRequest (name :: key :: args) ++ t)
            = .ok m (Spec.encRequest (name :: key :: args)).length ∧
      m.type = transform2Type goTables name (key :: args).length ∧
      m.frags = [(slot key, Spec.encRequest (toLower name :: key :: args))] ∧ m.key = key := by
  obtain ⟨-, -, h3, h4, h5, h6, h7⟩ := hty
  refine ⟨_, decode_encRequest goTables slot limit name (key :: args) t hs, ?_⟩
  rw [build_default goTables slot limit name (key :: args) _ _ rfl (not_or.mpr ⟨h3, h4⟩) h5 (not_or.mpr ⟨h6, h7⟩)]
  exact ⟨if_neg (Nat.not_lt.mpr hsize), rfl, rfl⟩

/-- scripts: the key is the third argument -/
theorem C02_request_eval (slot : Bytes → Nat) (limit : Nat) (name script numkeys key : Bytes) (args : List Bytes) (t : Bytes)
    (hs : SmallReq name (script :: numkeys :: key :: args))
    (hty : transform2Type goTables name (script :: numkeys :: key :: args).length = goTables.cEval ∨
           transform2Type goTables name (script :: numkeys :: key :: args).length = goTables.cEvalsha)
    (hsize : (Spec.encRequest (name :: script :: numkeys :: key :: args)).length ≤ limit) :
    ∃ m, decode goTables slot limit (Spec.encRequest (name :: script :: numkeys :: key :: args) ++ t)
            = .ok m (Spec.encRequest (name :: script :: numkeys :: key :: args)).length ∧
      m.frags = [(slot key, Spec.encRequest (toLower name :: script :: numkeys :: key :: args))] := by
  refine ⟨_, decode_encRequest goTables slot limit name _ t hs, ?_⟩
  rw [build_script goTables slot limit name _ _ _ rfl (script_not_split _ hty).1 (script_not_split _ hty).2 hty]
  rfl

/-- **reply framing**: every well-formed reply value is framed exactly, whatever follows -/
theorem C02_reply_framed (v : Reply) (t : Bytes) (h : WF v) :
    frameReply goTables (encReply v ++ t) = .ok (cls goTables v) (encReply v).length :=
  frameReply_enc goTables v t h

/-- **reply pass-through**: unless the reply is a redirect, it becomes the client's reply verbatim -/
theorem C02_reply_verbatim (slot : Bytes → Nat) (limit : Nat) (m : MMsg) (s : Nat) (f : MFrag) (v : Reply)
    (hf : getFrag m s = some f) (hnd : f.done = false) (herr : f.err = [])
    (hty : m.type ≠ goTables.cMget ∧ m.type ≠ goTables.cMset ∧ m.type ≠ goTables.cDel)
    (hr : cls goTables v ≠ goTables.rMoved ∧ cls goTables v ≠ goTables.rAsk)
    (hsz : (encReply v).length ≤ limit) :
    let r := onReply goTables goMergeConsts slot limit m s (cls goTables v) (encReply v)
    r.2 = .ready ∧ r.1.done = true ∧ r.1.rspBody = encReply v :=
  default_passthrough goTables goMergeConsts slot limit m s _ _ f hf hnd herr hty hr hsz

/-- above the limit the reply is replaced by the too-large error -/
theorem C02_reply_limit (slot : Bytes → Nat) (limit : Nat) (m : MMsg) (s : Nat) (f : MFrag) (v : Reply)
    (hf : getFrag m s = some f) (hnd : f.done = false)
    (hr : cls goTables v ≠ goTables.rMoved ∧ cls goTables v ≠ goTables.rAsk)
    (hsz : (encReply v).length > limit) :
    let r := onReply goTables goMergeConsts slot limit m s (cls goTables v) (encReply v)
    r.2 = .ready ∧ r.1.done = true ∧ r.1.rspBody = Gen.strErrMsgRspTooLarge :=
  reply_too_large goTables goMergeConsts slot limit m s _ _ f hf hnd hr hsz (by decide)

/-- the handshake replies are swallowed: `+OK` once or twice, under every split -/
theorem C02_handshake_swallowed :
    ∀ steps ∈ [1, 2], ∀ cut ≤ steps * 5,
      let full := (List.replicate steps okLine).flatten
      initializingDecode steps full = .done (steps * 5) ∧
      (cut < steps * 5 → cut > 0 → initializingDecode steps (full.take cut) = .incomplete) := by
  decide +kernel

/- non-vacuity: GET is a single-key type; a nested reply is framed -/
example : SingleKey (transform2Type goTables [71, 69, 84] 1) := by unfold SingleKey; decide +kernel
example : WF (.array [.bulk [97], .nullBulk, .array [.integer [49], .status [79, 75]]]) := by
  simp [WF, WFs, Small]

end RcVerif.Props.C02
