import RcVerif.Lemmas.Crc
import RcVerif.Model.Inst
/-
  C05 — the slot the proxy assigns to a key equals the Redis Cluster key slot,
  for every byte string.

  Model: `Hash.hashKey` over the table and slot count REGENERATED from
  core/pkg/hashkit/crc16.go and core/pkg/constant/constant.go (`goSlot`).
  Spec:  `Spec.keySlot` — bit-by-bit CRC16/XMODEM and the hash-tag rule.
-/
namespace RcVerif.Props.C05
open RcVerif RcVerif.Spec RcVerif.Hash RcVerif.Lemmas.Crc

def C05_statement : Prop := ∀ key : Bytes, goSlot key = Spec.keySlot key

/-- the Go table is the list of bitwise CRC remainders of 0·256 .. 255·256: the one evaluation of the
    table (linear; `getD` under a quantifier over `Fin 256` walks the list once per index) -/
theorem tab_eq : Gen.crc16tab = (List.range 256).map fun i => (crcShift8 (BitVec.ofNat 16 (i * 256))).toNat := by
  decide +kernel

/-- every entry of the Go table is the bitwise CRC remainder of its index -/
theorem table_correct : ∀ i : Fin 256,
    Gen.crc16tab.getD i.val 0 = (crcShift8 (BitVec.ofNat 16 (i.val * 256))).toNat := by
  intro i
  rw [tab_eq, List.getD_eq_getElem?_getD, List.getElem?_map, List.getElem?_range i.isLt]
  rfl

theorem table_lt (i : Fin 256) : Gen.crc16tab.getD i.val 0 < 65536 :=
  table_correct i ▸ (crcShift8 _).isLt

theorem table_length : Gen.crc16tab.length = 256 := by
  rw [tab_eq, List.length_map, List.length_range]

theorem slots_eq : Gen.redisClusterSlots = 16384 := by decide

/-- the specification's byte step, written with the table -/
theorem spec_byte (c : BitVec 16) (b : UInt8) :
    (crcByte c b).toNat =
      ((c.toNat % 256) * 256) ^^^ Gen.crc16tab.getD ((c.toNat / 256) ^^^ b.toNat) 0 := by
  unfold crcByte
  generalize hx : c ^^^ BitVec.ofNat 16 b.toNat <<< 8 = x
  have hb : b.toNat < 256 := b.toNat_lt
  have hxn : x.toNat = c.toNat ^^^ (b.toNat * 2 ^ 8) := by
    rw [← hx, BitVec.toNat_xor, BitVec.toNat_shiftLeft, BitVec.toNat_ofNat, Nat.shiftLeft_eq,
      Nat.mod_eq_of_lt (Nat.lt_trans hb (by decide)),
      Nat.mod_eq_of_lt (Nat.mul_lt_mul_of_lt_of_le hb (Nat.le_refl _) (by decide) : _ < 256 * 2 ^ 8)]
  have hlo : x.toNat % 256 = c.toNat % 256 := by
    show x.toNat % 2 ^ 8 = c.toNat % 2 ^ 8
    rw [hxn, Nat.xor_mod_two_pow, Nat.mul_mod_left, Nat.xor_zero]
  have hhi : x.toNat / 256 = (c.toNat / 256) ^^^ b.toNat := by
    show x.toNat / 2 ^ 8 = (c.toNat / 2 ^ 8) ^^^ b.toNat
    rw [hxn, Nat.xor_div_two_pow, Nat.mul_div_cancel _ (by decide)]
  -- (the theorems of this file rest on `propext` and `Quot.sound` only, and MANIFEST.json says so: core's
  -- `Nat.div_lt_of_lt_mul` and `Nat.mod_mul_right_div_self` would bring `Classical.choice` in)
  have hhi_lt : x.toNat / 256 < 256 := (Nat.div_lt_iff_lt_mul (by decide)).mpr x.isLt
  -- `crcShift8` is linear (`shift8_xor`): of the register split into its bytes (`split_bytes`) the high byte
  -- gives the table entry (`table_correct`), the low byte is only shifted up (`shift8_low`)
  rw [split_bytes x, shift8_xor]
  have h1 := table_correct ⟨x.toNat / 256, hhi_lt⟩
  have h2 := shift8_low ⟨x.toNat % 256, Nat.mod_lt _ (by decide)⟩
  simp only at h1 h2
  rw [h2, BitVec.toNat_xor, ← h1, BitVec.toNat_ofNat, hlo, hhi, Nat.xor_comm,
    Nat.mod_eq_of_lt (Nat.mul_lt_mul_of_lt_of_le (Nat.mod_lt _ (by decide)) (Nat.le_refl _) (by decide) :
      c.toNat % 256 * 256 < 256 * 256)]

/-- the uint32 loop body of `hash`, seen through its low 16 bits, is the
    specification's byte step (for EVERY 32-bit state, no enumeration) -/
theorem step_low16 (crc : Nat) (b : UInt8) :
    crcStep Gen.crc16tab crc b % 65536 = (crcByte (BitVec.ofNat 16 crc) b).toNat := by
  have hb : b.toNat < 2 ^ 8 := b.toNat_lt
  -- the table index: bits 8..15 of the state, xor the byte
  have hidx : ((crc >>> 8) ^^^ b.toNat) % 2 ^ 8 = (crc % 2 ^ 16 / 256) ^^^ b.toNat := by
    rw [Nat.xor_mod_two_pow, Nat.shiftRight_eq_div_pow, Nat.mod_eq_of_lt hb]
    exact congrArg (· ^^^ b.toNat) (div_mod_256 crc)
  have hlt : (crc % 2 ^ 16 / 256) ^^^ b.toNat < 2 ^ 8 :=
    Nat.xor_lt_two_pow ((Nat.div_lt_iff_lt_mul (by decide)).mpr (Nat.mod_lt crc (by decide))) hb
  -- the shifted state: its low byte moves up, the rest leaves the low 16 bits
  have hs : crc <<< 8 % 2 ^ 32 % 2 ^ 16 = crc % 2 ^ 16 % 256 * 256 := by
    rw [Nat.shiftLeft_eq, Nat.mod_mod_of_dvd _ (Nat.pow_dvd_pow 2 (by decide)),
      Nat.mod_mod_of_dvd crc (Nat.pow_dvd_pow 2 (by decide) : 2 ^ 8 ∣ 2 ^ 16)]
    exact Nat.mul_mod_mul_right 256 crc 256
  rw [spec_byte, BitVec.toNat_ofNat]
  unfold crcStep
  show _ % 2 ^ 16 = _
  rw [Nat.xor_mod_two_pow, hs]
  show _ ^^^ Gen.crc16tab.getD (((crc >>> 8) ^^^ b.toNat) % 2 ^ 8) 0 % 2 ^ 16 = _
  rw [hidx, Nat.mod_eq_of_lt (table_lt ⟨_, hlt⟩)]

/-- the whole loop: low 16 bits of the uint32 accumulator = specification CRC -/
theorem fold_low16 (key : Bytes) (crc : Nat) (c : BitVec 16) (h : crc % 65536 = c.toNat) :
    key.foldl (crcStep Gen.crc16tab) crc % 65536 = (key.foldl crcByte c).toNat := by
  induction key generalizing crc c with
  | nil => simpa using h
  | cons b bs ih =>
    simp only [List.foldl_cons]
    apply ih
    rw [step_low16]
    congr 2
    apply BitVec.eq_of_toNat_eq
    rw [BitVec.toNat_ofNat, ← h]

/-- `hash(key)` = CRC16/XMODEM(key) mod 16384 -/
theorem hashRaw_eq (key : Bytes) :
    hashRaw Gen.crc16tab Gen.redisClusterSlots key = (crc16 key).toNat % 16384 := by
  unfold hashRaw crc16
  rw [slots_eq, ← fold_low16 key 0 0#16 (by decide)]
  exact (Nat.mod_mod_of_dvd _ (by decide : 16384 ∣ 65536)).symm

/-- the hash-tag rule of `Hash` is the cluster specification's -/
theorem hashKey_eq (key : Bytes) :
    hashKey Gen.crc16tab Gen.redisClusterSlots key
      = hashRaw Gen.crc16tab Gen.redisClusterSlots (hashTag key) := by
  unfold hashKey hashTag
  cases indexOf 123 key with
  | none => rfl
  | some s =>
    simp only
    cases indexOf 125 (List.drop (s + 1) key) with
    | none => rfl
    | some e => cases e <;> simp

/-- **C05**: for every byte string, the proxy's slot is the Redis Cluster key slot. -/
theorem C05 : C05_statement := by
  intro key
  unfold goSlot goTables keySlot
  simp only
  rw [hashKey_eq, hashRaw_eq]

theorem slot_lt (key : Bytes) : goSlot key < 16384 := by
  rw [C05 key]
  exact Nat.mod_lt _ (by decide)

/- non-vacuity / sanity: concrete keys evaluated by the kernel -/
example : goSlot [97] = 15495 := by decide +kernel                          -- "a"
example : goSlot [125, 123, 97, 125] = 15495 := by decide +kernel           -- "}{a}" hashes "a" (fixed defect)
example : goSlot [123, 125, 107] = Spec.keySlot [123, 125, 107] := by decide +kernel  -- "{}k": empty tag, whole key
example : Spec.keySlot [102, 111, 111] = 12182 := by decide +kernel          -- "foo" (CLUSTER KEYSLOT foo = 12182)

end RcVerif.Props.C05
