import RcVerif.Lemmas.PoolBan
import RcVerif.Gen.Tables
/-
  Property theorems over the pool / ban model (`Model/PoolBan.lean`): `Pool.Get` with dial FAILURES, `Release`,
  `Close`, `SetIsSlave`, and `getConn`'s ban bookkeeping with the retry of `OnCReact`. Histories = every list of
  operations (`Op`) from the initial state. The model is tied to the real `core.Pool` / `listenServer.getConn`
  by the `pool` view.

  C15: a connection handed out is never a dead one; lost connections are replaced on demand; a node that cannot
       be dialled (or whose pool was closed) costs the request an error reply at once - nothing is queued.
  C10: a pool never holds more connections than configured; with one connection per node `Get` keeps returning it.
  C04: every pooled connection was dialled with the pool's current role (a role change releases them all).
  C20: the per-node ban state: order bounded by 5, ban length 2^order retry periods, reset by a served request.
-/
namespace RcVerif.PoolBan

theorem pool_inv_reachable (m : Nat) (rep : Bool) (ops : List Op) : Inv (run (init m rep) ops) :=
  inv_run (inv_init m rep) ops

/-- the constants the model carries are those the code has NOW (regenerated from `getConn` and `Pool.Get` on every
    run): the ban order is capped at 5 by `>= 5` / `= 5`, a ban lasts `1 << order` retry periods, `Pool.Get` dials
    while `count < maxActive` -/
theorem pool_constants_are_modelled :
    Gen.banOrderCap = 5 ∧ Gen.banOrderCapAssigned = 5 ∧ Gen.banDoubles = true ∧ Gen.poolDialWhile = "<" :=
  ⟨rfl, rfl, rfl, rfl⟩

/-! ### C15 -/

/-- `Pool.Get` never hands out a closed connection: what it returns is open, heads the pool's list, was dialled
    by this pool - in every reachable state, whatever was lost, released or failed to dial before -/
theorem C15_get_never_closed (m : Nat) (rep : Bool) (ops : List Op) (p : Nat) (s' : St) (c : Nat)
    (h : get (run (init m rep) ops) p = (s', some c)) :
    isOpen s'.conns c = true ∧ ∃ x, s'.conns[c]? = some x ∧ x.pool = p := by
  obtain ⟨x, _, hx, hxp, _⟩ := get_some_inv (pool_inv_reachable m rep ops) h
  exact ⟨(get_out h).1 c rfl, x, hx, hxp⟩

/-- lost connections are replaced on demand: when every pooled connection is dead (or none is pooled), the pool is
    not closed and the node can be dialled, `Get` returns a NEW connection -/
theorem C15_redial_after_loss (s : St) (p : Nat) (pl : Pool) (hp : s.pools[p]? = some pl)
    (hcl : pl.closed = false) (hd : pl.dialOk = true) (hdead : ∀ c ∈ pl.active, isOpen s.conns c = false) :
    (get s p).2 = some s.conns.length ∧ isOpen (get s p).1.conns s.conns.length = true := by
  rw [get_redial hp hcl (Or.inr hdead), dial_ok (pl := { pl with active := kept pl }) hd]
  exact ⟨rfl, isOpen_new _ _⟩

/-- a failed `Get` (closed pool, or the node cannot be dialled) dials nothing -/
theorem C15_get_failure_dials_nothing (s : St) (p : Nat) (s' : St) (h : get s p = (s', none)) :
    s'.conns = s.conns := (get_out h).2 rfl

/-- exactly when `Get` fails: the pool is unknown or closed, or a dial was needed (room left, or every pooled
    connection dead) and the node could not be dialled -/
theorem C15_get_fails_iff (s : St) (p : Nat) (pl : Pool) (hp : s.pools[p]? = some pl) :
    (get s p).2 = none ↔
      pl.closed = true ∨ (pl.dialOk = false ∧
        (pl.active.length < pl.maxActive ∨ ∀ c ∈ pl.active, isOpen s.conns c = false)) := by
  have h := get_spec s p
  generalize get s p = g at h ⊢
  cases h with
  | refused hc => simp [hc pl hp]
  | reused pl' hp' hcl hfull front c dead ha ho hd =>
    rw [hp] at hp'; cases hp'
    -- the connection handed out is a pooled one that is open
    have : ¬ ∀ c ∈ pl.active, isOpen s.conns c = false := fun hall => by
      rw [hall c (by rw [ha]; simp)] at ho; cases ho
    simp [hcl, hfull, this]
  | dialled pl' hp' hcl hk hd => rw [hp] at hp'; cases hp'; simp [hcl, hd]
  | failed pl' hp' hcl hk hd =>
    rw [hp] at hp'; cases hp'
    exact ⟨fun _ => Or.inr ⟨hd, hk⟩, fun _ => rfl⟩

/-- a request is either queued on an OPEN connection or answered with the error at once; in the second case
    nothing was dialled (so nothing can be waiting on a connection) -/
theorem C15_request_served_or_refused (s : St) (isRead : Bool) :
    (∃ c, (request s isRead).2 = .fwd c ∧ isOpen (request s isRead).1.conns c = true) ∨
    ((request s isRead).2 = .err ∧ (request s isRead).1.conns = s.conns) := by
  obtain ⟨t, ht, h⟩ := request_spec s isRead
  -- a first attempt that failed has dialled nothing
  have ht' : t.conns = s.conns := by
    rcases ht with rfl | ⟨rfl, hn⟩
    · rfl
    · exact (getConn_out s isRead).2 hn
  rw [h]; dsimp only
  cases hc : (getConn t isRead).2.1 with
  | some c => exact Or.inl ⟨c, rfl, (getConn_out t isRead).1 c hc⟩
  | none => exact Or.inr ⟨rfl, ((getConn_out t isRead).2 hc).trans ht'⟩

/-- `Pool.Close` (the node left the topology): every pooled connection is closed, the list emptied, the pool
    closed; from then on `Get` refuses without dialling -/
theorem C15_close_closes_all (s : St) (p : Nat) (pl : Pool) (hp : s.pools[p]? = some pl) (hcl : pl.closed = false)
    (hI : Inv s) :
    (∀ c ∈ pl.active, isOpen (close s p).conns c = false) ∧
    (∃ pl', (close s p).pools[p]? = some pl' ∧ pl'.closed = true ∧ pl'.active = []) ∧
    get (close s p) p = (close s p, none) := by
  rw [close_eq hp, if_neg (ne_true_of_eq_false hcl)]
  have hpl' := getElem?_set_pool_self hp { pl with active := [], closed := true }
  refine ⟨fun c hc => ?_, ⟨_, hpl', rfl, rfl⟩, get_closed hpl' rfl⟩
  obtain ⟨x, hx, _⟩ := (hI p pl hp).1 c hc
  exact closeConns_closes _ _ _ hc (lt_of_getElem? hx)

/-- a closed pool stays closed, whatever happens afterwards -/
theorem C15_closed_is_final (s : St) (p : Nat) (op : Op) (pl : Pool) (hp : s.pools[p]? = some pl)
    (hc : pl.closed = true) : ∃ pl', (step s op).pools[p]? = some pl' ∧ pl'.closed = true := by
  obtain ⟨pl', hp', hc'⟩ := (safe_step s op).1.pools p pl hp
  exact ⟨pl', hp', hc' hc⟩

/-- the loss is discovered by the write itself (the peer went away and no EOF was delivered yet): the request that
    was queued on that connection is answered with the connection-closed error, the connection is closed - so the
    pool will not hand it out again - and nothing else changes in the pools -/
theorem C15_write_failure_closes (s : St) (isRead : Bool) (c : Nat) (h : (serve s isRead).2 = .lost c) :
    isOpen (serve s isRead).1.conns c = false ∧ (request s isRead).2 = .fwd c ∧
    (serve s isRead).1.pools = (request s isRead).1.pools := by
  rcases serve_spec s isRead with ⟨c', hr, e | e⟩ | ⟨_, e⟩ <;> rw [e] at h ⊢ <;> cases h
  dsimp only [lose]
  exact ⟨isOpen_modify_self _ _, hr, rfl⟩

/-- every request has one of three fates, each of which answers the client or puts the request on a live socket:
    written to an open connection, failed by the write (error reply, connection closed), refused (error reply) -/
theorem C15_serve_total (s : St) (isRead : Bool) :
    (∃ c, (serve s isRead).2 = .fwd c ∧ isOpen (serve s isRead).1.conns c = true) ∨
    (∃ c, (serve s isRead).2 = .lost c ∧ isOpen (serve s isRead).1.conns c = false) ∨
    (serve s isRead).2 = .err := by
  rcases serve_spec s isRead with ⟨c, hr, e | e⟩ | ⟨_, e⟩ <;> rw [e] <;> dsimp only
  · refine Or.inl ⟨c, rfl, ?_⟩
    rcases C15_request_served_or_refused s isRead with ⟨c2, h1, h2⟩ | ⟨h1, _⟩ <;> rw [hr] at h1 <;> cases h1
    exact h2
  · exact Or.inr (Or.inl ⟨c, rfl, isOpen_modify_self _ _⟩)
  · exact Or.inr (Or.inr rfl)

/-- a connection that is closed stays closed through every later history - a lost connection is never revived,
    and (with `C15_get_never_closed`) never handed out again -/
theorem C15_dead_stays_dead (s : St) (c : Nat) (hc : c < s.conns.length) (h : isOpen s.conns c = false)
    (ops : List Op) : isOpen (run s ops).conns c = false :=
  closed_stays_closed (safe_run s ops).1.conns hc h

theorem C15_dead_never_returned (s : St) (c : Nat) (hc : c < s.conns.length) (h : isOpen s.conns c = false)
    (ops : List Op) (p : Nat) (s' : St) (c' : Nat) (hg : get (run s ops) p = (s', some c')) : c' ≠ c := by
  rintro rfl
  have hd := closed_stays_closed ((safe_run s ops).trans (safe_get _ p)).1.conns hc h
  rw [hg] at hd
  exact Bool.noConfusion (((get_out hg).1 c' rfl).symm.trans hd)

/-! ### C10 -/

/-- a pool never holds more connections than `server_connections` (at least one), in every reachable state -/
theorem C10_pool_bound (m : Nat) (rep : Bool) (ops : List Op) (p : Nat) (pl : Pool)
    (hp : (run (init m rep) ops).pools[p]? = some pl) : pl.active.length ≤ max pl.maxActive 1 :=
  (pool_inv_reachable m rep ops p pl hp).2.1

/-- with several connections and all of them alive `Get` takes the one at the back and moves it to the front:
    round-robin over the pooled connections -/
theorem C10_get_rotates (s : St) (p : Nat) (pl : Pool) (front : List Nat) (c : Nat) (hp : s.pools[p]? = some pl)
    (hcl : pl.closed = false) (ha : pl.active = front ++ [c]) (hfull : ¬ pl.active.length < pl.maxActive)
    (ho : isOpen s.conns c = true) :
    get s p = (setPool s p { pl with active := c :: front }, some c) :=
  get_reuse hp hcl hfull ha ho (fun _ h => nomatch h)

/-- one connection per node: while it is open, `Get` keeps returning that very connection and leaves the pool
    as it is (so every request for the node travels over one socket) -/
theorem C10_single_connection_reused (s : St) (p : Nat) (pl : Pool) (c : Nat) (hp : s.pools[p]? = some pl)
    (hcl : pl.closed = false) (hm : pl.maxActive = 1) (ha : pl.active = [c]) (ho : isOpen s.conns c = true) :
    get s p = (setPool s p pl, some c) := by
  rw [C10_get_rotates s p pl [] c hp hcl ha (by rw [ha, hm]; exact Nat.lt_irrefl 1) ho, ← ha]

/-! ### C04 -/

/-- every pooled connection was dialled by its pool with the pool's CURRENT role: a role change releases what was
    pooled, so a replica connection always started with READONLY and a master connection never did -/
theorem C04_pooled_role (m : Nat) (rep : Bool) (ops : List Op) (p : Nat) (pl : Pool)
    (hp : (run (init m rep) ops).pools[p]? = some pl) (c : Nat) (hc : c ∈ pl.active) :
    ∃ x, (run (init m rep) ops).conns[c]? = some x ∧ x.pool = p ∧ x.slave = pl.isSlave :=
  (pool_inv_reachable m rep ops p pl hp).1 c hc

/-- the connection `Get` returns carries the pool's current role -/
theorem C04_get_role (m : Nat) (rep : Bool) (ops : List Op) (p : Nat) (s' : St) (c : Nat)
    (h : get (run (init m rep) ops) p = (s', some c)) :
    ∃ x pl', s'.conns[c]? = some x ∧ s'.pools[p]? = some pl' ∧ x.slave = pl'.isSlave := by
  obtain ⟨x, pl', hx, _, hp', hs⟩ := get_some_inv (pool_inv_reachable m rep ops) h
  exact ⟨x, pl', hx, hp', hs⟩

/-! ### C20: the ban state a failed dial leaves behind -/

/-- the ban order never leaves 0..5 -/
theorem C20_ban_order_bounded (m : Nat) (rep : Bool) (ops : List Op) (p : Nat) (pl : Pool)
    (hp : (run (init m rep) ops).pools[p]? = some pl) : pl.order ≤ 5 :=
  (pool_inv_reachable m rep ops p pl hp).2.2.1

/-- one failed `getConn`: the node is banned for 2^order retry periods, the order climbs by one up to 5 -/
theorem C20_ban_backoff (pl : Pool) :
    (banFail pl).flag = true ∧ (banFail pl).banUnits = 2 ^ pl.order ∧ (banFail pl).order = min (pl.order + 1) 5 :=
  ⟨rfl, rfl, banFail_order pl⟩

/-- `n` failed attempts in a row -/
def failN : Nat → Pool → Pool
  | 0, q => q
  | n + 1, q => failN n (banFail q)

/-- `k + 1` further failures of a node that has failed `n` times in a row -/
theorem failN_succ (k : Nat) : ∀ (q : Pool) (n : Nat), q.order = min n 5 →
    (failN (k + 1) q).order = min (n + k + 1) 5 ∧ (failN (k + 1) q).banUnits = 2 ^ min (n + k) 5 := by
  have hstep : ∀ (q : Pool) (n : Nat), q.order = min n 5 → (banFail q).order = min (n + 1) 5 := by
    intro q n hq; rw [banFail_order, hq, ← Nat.add_min_add_right, Nat.min_assoc]; rfl
  induction k with
  | zero => intro q n hq; exact ⟨hstep q n hq, by show 2 ^ q.order = 2 ^ min (n + 0) 5; rw [hq]; rfl⟩
  | succ j ih =>
    intro q n hq
    have := ih (banFail q) (n + 1) (hstep q n hq)
    rw [Nat.add_right_comm n 1 j] at this; exact this

/-- `k + 1` failures in a row starting from a clean node: order `min (k+1) 5`, the last ban `2^(min k 5)` periods -/
theorem C20_fail_streak (pl : Pool) (h0 : pl.order = 0) (k : Nat) :
    (failN (k + 1) pl).order = min (k + 1) 5 ∧ (failN (k + 1) pl).banUnits = 2 ^ (min k 5) := by
  have := failN_succ k pl 0 (by rw [h0]; rfl)
  rw [Nat.zero_add] at this; exact this

/-- `getConn`'s bookkeeping: a failed attempt applies `banFail` to the routed pool (and asks for a second attempt
    when the node was a replica), a successful one resets its order -/
theorem C20_getConn_fail (s : St) (isRead : Bool) (u : St)
    (hg : get (if routePool s isRead = 1 then updPool s 1 (fun pl => { pl with flag := false }) else s)
            (routePool s isRead) = (u, none)) :
    getConn s isRead = (updPool u (routePool s isRead) banFail, none, decide (routePool s isRead = 1)) := by
  rw [getConn_eq, preGet, hg]

theorem C20_getConn_ok (s : St) (isRead : Bool) (u : St) (c : Nat)
    (hg : get (if routePool s isRead = 1 then updPool s 1 (fun pl => { pl with flag := false }) else s)
            (routePool s isRead) = (u, some c)) :
    getConn s isRead = (updPool u (routePool s isRead) (fun pl => { pl with order := 0 }), some c, false) := by
  rw [getConn_eq, preGet, hg]

/-- a role change releases the connections and nothing else: the pool stays open (its health monitor ends only
    with `Close`), the ban state is untouched -/
theorem C20_role_change_keeps_pool (s : St) (p : Nat) (b : Bool) (pl : Pool) (hp : s.pools[p]? = some pl) :
    ∃ pl', (setIsSlave s p b).pools[p]? = some pl' ∧ pl'.closed = pl.closed ∧ pl'.order = pl.order ∧
      pl'.flag = pl.flag ∧ pl'.isSlave = b := by
  rw [setIsSlave_eq hp]
  by_cases hb : pl.isSlave = b
  · rw [if_pos hb]; exact ⟨pl, hp, rfl, rfl, rfl, hb⟩
  rw [if_neg hb]
  by_cases hc : pl.closed = true
  · rw [if_pos hc]; exact ⟨{ pl with isSlave := b }, getElem?_set_pool_self hp _, rfl, rfl, rfl, rfl⟩
  · rw [if_neg hc]; exact ⟨{ pl with isSlave := b, active := [] }, getElem?_set_pool_self hp _, rfl, rfl, rfl, rfl⟩

/-- what `route` does with a flagged replica, as the code has it: while the ban has not run out the replica is
    picked (and un-flagged); once it has run out the replica is skipped and reads go to the master - until the
    health monitor clears the flag (DESIGN §9: the log messages say the opposite) -/
theorem route_with_flagged_replica (s : St) (rp : Pool) (h : s.pools[1]? = some rp) (hf : rp.flag = true) :
    routePool s true = (if rp.banPassed then 0 else 1) ∧ routePool s false = 0 := by
  unfold routePool; rw [h]; simp [hf]
  cases rp.banPassed <;> rfl

/-- a replica that is not flagged gets the reads, a master-only topology sends everything to the master -/
theorem route_unflagged (s : St) :
    (∀ rp, s.pools[1]? = some rp → rp.flag = false → routePool s true = 1) ∧
    (s.pools[1]? = none → ∀ r, routePool s r = 0) := by
  constructor
  · intro rp h hf; unfold routePool; rw [h]; simp [hf]
  · intro h r; unfold routePool; rw [h]

/-- the replica cannot be dialled, is flagged, its ban runs out: the next read goes to the master -/
example :
    let s := run (init 1 true) [.setDial 1 false, .req true, .expire 1]
    (serve s true).2 = .fwd 0 ∧ ((serve s true).1.conns.map (·.pool)) = [0] := by decide +kernel

/-- two connections dialled, the older one lost: `Get` skips it, hands out the live one; when that is lost too a
    third one is dialled -/
example :
    let s := run (init 2 false) [.get 0, .get 0, .lose 0]
    (get s 0).2 = some 1 ∧ (get (lose s 1) 0).2 = some 2 := by decide +kernel

/-- a node that cannot be dialled: three reads of its only replica (two attempts each) take the order to its
    cap, each is answered with the error, nothing is dialled -/
example :
    let s := run (init 1 true) [.setDial 1 false, .req true, .req true, .req true]
    (s.pools.map (·.order)) = [0, 5] ∧ (s.pools.map (·.banUnits)) = [0, 32] ∧ s.conns = [] ∧
    (request s true).2 = .err := by decide +kernel

/-- the node comes back: the next read is served over a new connection and the order is reset -/
example :
    let s := run (init 1 true) [.setDial 1 false, .req true, .setDial 1 true]
    (request s true).2 = .fwd 0 ∧ ((request s true).1.pools.map (·.order)) = [0, 0] := by decide +kernel

/-- a role change releases the pooled connections; the next one is dialled with the new role -/
example :
    let s := run (init 2 true) [.req true, .setSlave 1 false, .req true]
    s.conns.map (fun x => (x.opened, x.slave)) = [(false, true), (true, false)] := by decide +kernel

/-- the peer of the only connection vanishes: the next request is failed by its write, the connection is closed,
    and the request after that is served over a new connection -/
example :
    let s := run (init 1 false) [.req false, .vanish 0]
    (serve s false).2 = .lost 0 ∧ (serve (serve s false).1 false).2 = .fwd 1 := by decide +kernel

/-- a closed pool refuses and dials nothing -/
example :
    let s := run (init 2 false) [.get 0, .close 0]
    (get s 0).2 = none ∧ s.conns.map (·.opened) = [false] ∧ (request s false).2 = .err := by decide +kernel

end RcVerif.PoolBan
