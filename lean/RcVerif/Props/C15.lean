import RcVerif.Lemmas.SimPend
import RcVerif.Props.C09
/-
  C15 — losing a backend never leaves a client waiting forever.

  Global (all histories of the machine, every fault point, every pipeline position, single and split requests):
  * `C15_no_orphan`: in every reachable state inside the modelled domain, every unanswered fragment of every
    uncompleted request sits in the awaiting-reply or pending-write queue of an OPEN redis connection. So there is
    never a request that nothing will ever complete: a reply, a redirect, the loss of that connection
    (`C15_close_fails_all`) or its deadline (C16) reaches it.
  * with C09 (`C15_answered`): a completed request at the head of an open client's queue has been written out.
  Local:
  * `C15_close_fails_all`: closing a connection completes, with the backend-closed error, every request that had an
    unanswered fragment written to it or still queued for it, marks all their fragments done and flushes the owners;
  * `C15_closed_state`, `C15_closed_skipped`: the closed connection's queues are emptied; a pending write signal for it
    is a no-op;
  * `C15_redial`: when all pooled connections of a node are lost, the next `Pool.Get` dials a new, open one;
    `poolGet_open` (C13): `Pool.Get` never hands out a closed connection;
  * `C13_unknown_node`: a redirect to a node without a pool completes the request with an error;
  * `C15_pool_removed`, `C15_close_task`, `C15_removed_not_found`: a node leaves the topology (`ticker` closes its
    pool): every pooled connection gets a close task, which is `backendClose`, and the pool is not found again.
  Not modelled: real time ("forever") - the theorem is the safety core: nothing is ever left referenced by no queue
  (the pool bookkeeping of `ticker` itself is covered by C14's model).
-/
namespace RcVerif.Props.C15
open RcVerif RcVerif.Sim RcVerif.Merge RcVerif.Lemmas.SimPend
open RcVerif.Props.C01

def C15_statement : Prop :=
  ∀ (cfg : Cfg) (slotFn : Bytes → Nat) (pools : List (Bytes × Bool)) (table : List (Nat × Nat × RSet))
    (es : List Event) (mi : Nat) (r : Req) (slot : Nat),
    (reach cfg slotFn pools table es).flag = none →
    (reach cfg slotFn pools table es).msgs[mi]? = some r → r.m.done = false → Undone r.m slot →
      Pending (reach cfg slotFn pools table es) (.frag mi slot)

theorem C15_no_orphan : C15_statement := by
  intro cfg slotFn pools table es mi r slot hflag hr hd hu
  rcases goodP_run goTables goStrs cfg slotFn es _ (goodP_init goStrs cfg pools table) with h | h
  · rw [hflag] at h; exact absurd h (by simp)
  · exact h mi r hr hd slot hu (by simp)

/-- and what is completed is not held back: nothing completed sits at the head of an open client's queue (C09) -/
theorem C15_answered (cfg : Cfg) (slotFn : Bytes → Nat) (pools : List (Bytes × Bool)) (table : List (Nat × Nat × RSet))
    (es : List Event) (c : Nat) (cl : Client)
    (hflag : (reach cfg slotFn pools table es).flag = none)
    (hcl : (reach cfg slotFn pools table es).clients[c]? = some cl) (hop : cl.opened = true) :
    donePrefix (reach cfg slotFn pools table es).msgs cl.queue = [] :=
  RcVerif.Props.C09.C09 cfg slotFn pools table es c cl hflag hcl hop

/-- **a lost connection fails everything that depended on it**: when a backend connection is closed, every request
    that still has an unanswered fragment awaiting a reply on it (written: `inQ`) or queued to it (not yet written:
    `outQ`) is completed with the backend-closed error, all its fragments are marked done (replies that might still
    arrive elsewhere are dropped), and its owner is flushed. Single and split requests alike, at every position. -/
theorem C15_close_fails_all (S : Strs) (s : State) (b : Nat) (x : Backend) (hx : s.backends[b]? = some x)
    (ho : x.opened = true) (mi : Nat) (r : Req) (hr : s.msgs[mi]? = some r)
    (h : ∃ slot fr, FragRef.frag mi slot ∈ x.inQ ++ x.outQ.map (·.ref) ∧ getFrag r.m slot = some fr ∧ fr.done = false) :
    ∃ r', (backendClose S s b).msgs[mi]? = some r' ∧ LostOut S r' ∧ r'.owner = r.owner ∧ r'.num = r.num := by
  rw [backendClose_open S s b x hx ho]
  exact closeScan_fails S s _ _ mi r hr h

/-- the connection itself: closed, both queues emptied; everything else about the connections is as before -/
theorem C15_closed_state (S : Strs) (s : State) (b : Nat) (x : Backend) (hx : s.backends[b]? = some x)
    (ho : x.opened = true) :
    (backendClose S s b).backends[b]? = some { x with opened := false, inQ := [], outQ := [], leftover := [] } ∧
    ∀ j, j ≠ b → (backendClose S s b).backends[j]? = s.backends[j]? := by
  rw [backendClose_open S s b x hx ho]
  have hb := (cs_closeScan S s (x.inQ ++ x.outQ.map (·.ref)) x.inQ).backends
  exact ⟨backend_upd_same _ b _ x (by rw [hb]; exact hx), fun j hj => by rw [backend_upd_other _ b j _ hj, hb]⟩

/-- queued work for a closed connection is skipped by the write signal -/
theorem C15_closed_skipped (S : Strs) (cfg : Cfg) (s : State) (b : Nat) (x : Backend) (hx : s.backends[b]? = some x)
    (hc : x.opened = false) : writeSignal S cfg s b = s :=
  writeSignal_cases (P := fun s' => s' = s) S cfg s b rfl fun y _ hy ho => by
    cases hx.symm.trans hy; rw [hc] at ho; cases ho

/-- **served over a new connection**: when every pooled connection of a node has been lost, the next `Pool.Get`
    dials a new one (to the same node), open and with empty queues; the proxy keeps going -/
theorem C15_redial (S : Strs) (cfg : Cfg) (s : State) (p : Nat) (pool : Pool) (hp : s.pools[p]? = some pool)
    (hclosed : ∀ id ∈ pool.active, ∀ b, s.backends[id]? = some b → b.opened = false) :
    (poolGet S cfg s p).2 = s.backends.length ∧
    ∃ b, (poolGet S cfg s p).1.backends[s.backends.length]? = some b ∧ b.opened = true ∧ b.addr = pool.addr ∧
      b.outQ = [] ∧ b.inQ = [] ∧ (poolGet S cfg s p).1.flag = s.flag := by
  refine poolGet_cases (P := fun r => r.2 = s.backends.length ∧ ∃ b, r.1.backends[s.backends.length]? = some b ∧ b.opened = true ∧
      b.addr = pool.addr ∧ b.outQ = [] ∧ b.inQ = [] ∧ r.1.flag = s.flag) S cfg s p (fun hn => nomatch hp.symm.trans hn)
    (fun pool' id _ b hp' hid _ hb ho => ?_) fun pool' _ hp' _ => ?_
  · -- an open pooled connection: there is none
    cases hp.symm.trans hp'
    rw [hclosed id hid b hb] at ho; cases ho
  · cases hp.symm.trans hp'
    exact ⟨rfl, newConn S cfg pool, List.getElem?_concat_length, rfl, rfl, rfl, rfl, rfl⟩

/-- **a node leaves the topology** (`ticker`: `Pool.Close`, pool deleted): every pooled connection of the node gets
    a close task, queued behind the write signals already pending (same FIFO queue); nothing else changes. When the
    poller runs that task it is `backendClose` (`C15_close_fails_all`: everything in flight or queued on it fails);
    the node's slots are rejected from then on (no pool). `C15_no_orphan` covers histories with such removals. -/
theorem C15_pool_removed (s : State) (p : Nat) (pool : Pool) (hp : s.pools[p]? = some pool) (hr : pool.removed = false) :
    (poolRemove s p).tasks = s.tasks ++ pool.active.map Task.close ∧
    (poolRemove s p).msgs = s.msgs ∧ (poolRemove s p).clients = s.clients ∧ (poolRemove s p).backends = s.backends ∧
    (poolRemove s p).pools[p]? = some { pool with removed := true, active := [] } := by
  unfold poolRemove
  rw [hp]
  simp only [hr, Bool.false_eq_true, ↓reduceIte, true_and]
  exact getElem?_setAt_self s.pools p _ pool hp

theorem C15_close_task (S : Strs) (cfg : Cfg) (s : State) (b : Nat) :
    runTask S cfg (backendClose S) s (.close b) = backendClose S s b := rfl

/-- a removed pool is never found again: requests for the node's slots are answered with the no-pool error -/
theorem C15_removed_not_found (pools : List Pool) (addr : Bytes) (p : Nat) (pool : Pool) (h : findPool pools addr = some p)
    (hp : pools[p]? = some pool) : pool.removed = false := by
  obtain ⟨pool', hp', _, hr⟩ := findPool_spec pools addr p h
  rw [hp] at hp'
  cases hp'
  exact hr

/- non-vacuity, kernel-evaluated on the model with the real tables: GET a is written to node m, GET a again is
   still queued; the connection is lost: both are answered with the error, in order; the next GET dials a new
   connection (backend 1) and is served -/
def exCfg : Cfg := { limit := 1000, timeout := false, passwd := [], disableSlave := true, maxActive := 1 }
def getA : Bytes := [42, 50, 13, 10, 36, 51, 13, 10, 103, 101, 116, 13, 10, 36, 49, 13, 10, 97, 13, 10]
def ch : ReqChoice := { visit := [(15495, [109])] }
def exEvents : List Event :=
  [.connect true, .clientBytes 0 getA [ch], .runTasks, .clientBytes 0 getA [ch],
   .backendClose 0,
   .clientBytes 0 getA [ch], .runTasks, .backendBytes 1 [36, 49, 13, 10, 118, 13, 10]]
example :
    let s := reach exCfg goSlot [([109], false)] [(0, 16383, { master := [109], slaves := [] })] exEvents
    s.flag = none ∧
    s.clients.map (·.out) = [Gen.strErrBackendClosed ++ Gen.strErrBackendClosed ++ [36, 49, 13, 10, 118, 13, 10]] ∧
    s.backends.map (fun b => (b.opened, b.sent.length)) = [(false, 1), (true, 1)] := by
  decide +kernel

end RcVerif.Props.C15
