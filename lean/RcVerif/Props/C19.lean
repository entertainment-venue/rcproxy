import RcVerif.Lemmas.ElasticBuf
import RcVerif.Lemmas.ConnIOBuf
/-
  C19 — the I/O buffers behave as exact FIFO byte queues.

  For EVERY sequence of operations (any chunk sizes, wrap-around, growth below and above the 4 KB threshold, spill from
  the ring into the list, partial drains, resets, pooled rings being recycled):

  * `C19_ring`    - `ring.Buffer` started by `New(size)`: each observation (bytes peeked, read, counts discarded) is
                    what the ideal FIFO byte queue gives, and `Buffered` / `Available` / `IsEmpty` are exact;
  * `C19_llist`   - `linkedlist.Buffer`: same; vectored peeks return whole nodes: a prefix of the queue that covers
                    the bytes asked for;
  * `C19_elastic` - `elastic.Buffer` (ring first, list beyond `maxStaticBytes`) together with a second
                    `elastic.RingBuffer` sharing the ring pool: same, and a ring taken from the pool is always empty.

  * `C19_conn_stream` - the users (core/connection.go `write` / `writev`, core/eventloop.go `write`): whatever number
                    of bytes the kernel accepts in each call (partial writes, EAGAIN), the bytes on the wire followed
                    by the backlog are exactly the bytes handed to the connection, in order: a slow reader gets every
                    reply complete and uncorrupted;
  * `C10_queue_stream` - a backend connection on top of that write path (`EnqueueOutFrag`, `handleWriteSignal`,
                    writable events): whatever the kernel accepts in each write, the bytes on the wire, the backlog
                    and the pending-write queue together are exactly the requests in the order they were queued
                    (C10 under a backlog).

  The models are `RcVerif.Model.Ring / LList / Elastic / ConnIO`; their constants (default size, growth threshold) are
  regenerated from the Go source. Not modelled: ReadFrom / WriteTo, pool size calibration, int overflow in `grow`,
  the recycling of byte slices (`bsPool`) - the backing memory is a value here, so aliasing of recycled memory
  cannot be expressed (the sim view's byte-exact comparison of streams is what would show it).
-/
namespace RcVerif.Props.C19
open RcVerif RcVerif.Elastic RcVerif.Lemmas.RingBuf RcVerif.Lemmas.LListBuf RcVerif.Lemmas.ElasticBuf
open RcVerif.Ring (Ring)
open RcVerif.LList (LL)

/-- what an operation lets its caller see -/
inductive Obs
  | none
  | bytes (b : Bytes)
  | count (n : Nat)
  | byte (b : Option UInt8)
  deriving Repr, DecidableEq

/-! ### ring.Buffer -/

inductive ROp
  | write (p : Bytes)
  | writeByte (c : UInt8)
  | peek (n : Int)
  | discard (n : Int)
  | read (k : Nat)
  | readByte
  | reset
  deriving Repr

def rstep (rb : Ring) : ROp → Ring × Obs
  | .write p => (Ring.write rb p, .none)
  | .writeByte c => (Ring.writeByte rb c, .none)
  | .peek n => (rb, .bytes ((Ring.peek rb n).1 ++ (Ring.peek rb n).2))
  | .discard n => ((Ring.discard rb n).1, .count (Ring.discard rb n).2)
  | .read k => ((Ring.read rb k).1, .bytes (Ring.read rb k).2.1)
  | .readByte => ((Ring.readByte rb).1, .byte (Ring.readByte rb).2)
  | .reset => (Ring.reset rb, .none)

/-- the specification: an ideal FIFO byte queue -/
def qstep (q : Bytes) : ROp → Bytes × Obs
  | .write p => (q ++ p, .none)
  | .writeByte c => (q ++ [c], .none)
  | .peek n => (q, .bytes (if n ≤ 0 then q else q.take n.toNat))
  | .discard n => (q.drop n.toNat, .count (min n.toNat q.length))
  | .read k => (q.drop k, .bytes (q.take k))
  | .readByte => (q.drop 1, .byte q.head?)
  | .reset => ([], .none)

def runR (rb : Ring) : List ROp → Ring × List Obs
  | [] => (rb, [])
  | op :: ops => let (rb', o) := rstep rb op; let (rb'', os) := runR rb' ops; (rb'', o :: os)

def runQ (q : Bytes) : List ROp → Bytes × List Obs
  | [] => (q, [])
  | op :: ops => let (q', o) := qstep q op; let (q'', os) := runQ q' ops; (q'', o :: os)

theorem rstep_refines (rb : Ring) (h : Inv rb) (op : ROp) :
    Inv (rstep rb op).1 ∧ Ring.content (rstep rb op).1 = (qstep (Ring.content rb) op).1 ∧
    (rstep rb op).2 = (qstep (Ring.content rb) op).2 := by
  cases op <;> dsimp only [rstep, qstep]
  case write p => exact ⟨(write_spec rb h p).1, (write_spec rb h p).2, rfl⟩
  case writeByte c =>
    rw [writeByte_eq rb h c]
    exact ⟨(write_spec rb h [c]).1, (write_spec rb h [c]).2, rfl⟩
  case peek n => exact ⟨h, rfl, congrArg Obs.bytes (RcVerif.Lemmas.RingBuf.peek_spec rb h n)⟩
  case discard n =>
    obtain ⟨d1, d2, d3⟩ := RcVerif.Lemmas.RingBuf.discard_spec rb h n
    exact ⟨d1, d2, congrArg Obs.count d3⟩
  case read k =>
    obtain ⟨d1, d2, d3⟩ := RcVerif.Lemmas.RingBuf.read_spec rb h k
    exact ⟨d1, d2, congrArg Obs.bytes d3⟩
  case readByte =>
    obtain ⟨d1, d2, d3⟩ := RcVerif.Lemmas.RingBuf.read_spec rb h 1
    rw [readByte_eq rb h, d3, List.head?_take, if_neg Nat.one_ne_zero]
    exact ⟨d1, d2, rfl⟩
  case reset => exact ⟨inv_reset rb h, content_reset rb, rfl⟩

theorem runR_refines (ops : List ROp) (rb : Ring) (h : Inv rb) :
    Inv (runR rb ops).1 ∧ Ring.content (runR rb ops).1 = (runQ (Ring.content rb) ops).1 ∧
    (runR rb ops).2 = (runQ (Ring.content rb) ops).2 := by
  induction ops generalizing rb with
  | nil => exact ⟨h, rfl, rfl⟩
  | cons op ops ih =>
    obtain ⟨s1, s2, s3⟩ := rstep_refines rb h op
    obtain ⟨i1, i2, i3⟩ := ih (rstep rb op).1 s1
    simp only [runR, runQ]
    refine ⟨i1, by rw [i2, s2], by rw [i3, s2, s3]⟩

/-- **C19, ring**: every observation of every operation sequence on `ring.New(size)` is the ideal queue's, and the
    reported lengths are exact -/
theorem C19_ring (size : Nat) (ops : List ROp) :
    let rb := (runR (Ring.new size) ops).1
    (runR (Ring.new size) ops).2 = (runQ [] ops).2 ∧
    Ring.content rb = (runQ [] ops).1 ∧
    Ring.buffered rb = (runQ [] ops).1.length ∧
    Ring.available rb = rb.size - (runQ [] ops).1.length ∧
    (rb.isEmpty = true ↔ (runQ [] ops).1 = []) := by
  obtain ⟨hn, hc⟩ := inv_new size
  obtain ⟨i1, i2, i3⟩ := runR_refines ops (Ring.new size) hn
  rw [hc] at i2 i3
  refine ⟨i3, i2, ?_, ?_, ?_⟩
  · rw [← i2, content_length _ i1]
  · rw [available_eq _ i1, ← i2, content_length _ i1]
  · rw [← i2]; exact isEmpty_iff _ i1

/-! ### linkedlist.Buffer -/

inductive LOp
  | pushBack (p : Bytes)
  | pushFront (p : Bytes)
  | peek (n : Int)
  | peekWithBytes (n : Int) (bs : List Bytes)
  | discard (n : Int)
  | read (k : Nat)
  | reset
  deriving Repr

/-- observations of the list: vectored peeks return slices -/
inductive LObs
  | none
  | slices (bs : List Bytes)
  | bytes (b : Bytes)
  | count (n : Nat)
  deriving Repr, DecidableEq

def lstep (l : LL) : LOp → LL × LObs
  | .pushBack p => (LList.pushBack l p, .none)
  | .pushFront p => (LList.pushFront l p, .none)
  | .peek n => (l, .slices (LList.peek l n))
  | .peekWithBytes n bs => (l, .slices (LList.peekWithBytes l n bs))
  | .discard n => ((LList.discard l n).1, .count (LList.discard l n).2)
  | .read k => ((LList.read l k).1, .bytes (LList.read l k).2)
  | .reset => (LList.reset l, .none)

/-- how the queue moves -/
def lnext (q : Bytes) : LOp → Bytes
  | .pushBack p => q ++ p
  | .pushFront p => p ++ q
  | .peek _ => q
  | .peekWithBytes _ _ => q
  | .discard n => q.drop n.toNat
  | .read k => q.drop k
  | .reset => []

/-- `flat` is a prefix of `have` that covers `n` bytes of it (all of it when `n ≤ 0` or fewer are there) -/
def CoversPrefix (n : Int) (flat have_ : Bytes) : Prop :=
  (∃ rest, have_ = flat ++ rest) ∧ min (LList.clampMax n) have_.length ≤ flat.length

/-- what the caller may see, given the queue -/
def lok (q : Bytes) : LOp → LObs → Prop
  | .pushBack _, .none => True
  | .pushFront _, .none => True
  | .peek n, .slices bs => CoversPrefix n bs.flatten q
  | .peekWithBytes n ex, .slices bs => CoversPrefix n bs.flatten (ex.flatten ++ q)
  | .discard n, .count d => d = min n.toNat q.length
  | .read k, .bytes b => b = q.take k
  | .reset, .none => True
  | _, _ => False

def runL (l : LL) : List LOp → LL × List LObs
  | [] => (l, [])
  | op :: ops => let (l', o) := lstep l op; let (l'', os) := runL l' ops; (l'', o :: os)

/-- every observation conforms to the queue as it stood -/
def Conforms : Bytes → List LOp → List LObs → Prop
  | _, [], [] => True
  | q, op :: ops, o :: os => lok q op o ∧ Conforms (lnext q op) ops os
  | _, _, _ => False

theorem lstep_refines (l : LL) (h : LInv l) (op : LOp) :
    LInv (lstep l op).1 ∧ LList.content (lstep l op).1 = lnext (LList.content l) op ∧
    lok (LList.content l) op (lstep l op).2 := by
  cases op with
  | pushBack p => exact ⟨(pushBack_spec l h p).1, (pushBack_spec l h p).2, trivial⟩
  | pushFront p => exact ⟨(pushFront_spec l h p).1, (pushFront_spec l h p).2, trivial⟩
  | peek n => exact ⟨h, rfl, RcVerif.Lemmas.LListBuf.peek_spec l n⟩
  | peekWithBytes n bs => exact ⟨h, rfl, peekWithBytes_spec l n bs⟩
  | discard n => exact RcVerif.Lemmas.LListBuf.discard_spec l h n
  | read k => exact RcVerif.Lemmas.LListBuf.read_spec l h k
  | reset => exact ⟨inv_empty, rfl, trivial⟩

theorem runL_refines (ops : List LOp) (l : LL) (h : LInv l) :
    LInv (runL l ops).1 ∧ Conforms (LList.content l) ops (runL l ops).2 := by
  induction ops generalizing l with
  | nil => exact ⟨h, trivial⟩
  | cons op ops ih =>
    obtain ⟨s1, s2, s3⟩ := lstep_refines l h op
    obtain ⟨i1, i2⟩ := ih (lstep l op).1 s1
    simp only [runL]
    exact ⟨i1, s3, by rw [← s2]; exact i2⟩

/-- **C19, linked list**: every operation sequence on an empty `linkedlist.Buffer` conforms to the ideal queue, and
    the byte and node counters are exact -/
theorem C19_llist (ops : List LOp) :
    Conforms [] ops (runL {} ops).2 ∧
    (runL {} ops).1.bytes = (LList.content (runL {} ops).1).length ∧
    (runL {} ops).1.size = (runL {} ops).1.nodes.length := by
  obtain ⟨i1, i2⟩ := runL_refines ops {} inv_empty
  exact ⟨i2, i1.bytes, i1.size⟩

/-! ### elastic.Buffer and elastic.RingBuffer over one ring pool -/

inductive EOp
  | write (p : Bytes)
  | writev (bs : List Bytes)
  | peek (n : Int)
  | discard (n : Int)
  | read (k : Nat)
  | reset (maxStatic : Int)
  | release
  -- the second buffer: an `elastic.RingBuffer` (a connection's inbound buffer) sharing the pool
  | rWrite (p : Bytes)
  | rPeek (n : Int)
  | rDiscard (n : Int)
  | rRead (k : Nat)
  | rReset
  | rDone
  deriving Repr

structure EState where
  pool : Pool := {}
  a : EBuf
  r : ERing := {}

def estep (s : EState) : EOp → EState × LObs
  | .write p => let (pool, a) := s.a.write s.pool p; ({ s with pool := pool, a := a }, .none)
  | .writev bs => let (pool, a) := s.a.writev s.pool bs; ({ s with pool := pool, a := a }, .none)
  | .peek n => (s, .slices (s.a.peek n))
  | .discard n => let (pool, a, d) := s.a.discard s.pool n; ({ s with pool := pool, a := a }, .count d)
  | .read k => let (pool, a, out) := s.a.read s.pool k; ({ s with pool := pool, a := a }, .bytes out)
  | .reset m => ({ s with a := s.a.reset m }, .none)
  | .release => let (pool, a) := s.a.release s.pool; ({ s with pool := pool, a := a }, .none)
  | .rWrite p => let (pool, r) := s.r.write s.pool p; ({ s with pool := pool, r := r }, .none)
  | .rPeek n => (s, .bytes ((s.r.peek n).1 ++ (s.r.peek n).2))
  | .rDiscard n => let (pool, r, d, _) := s.r.discard s.pool n; ({ s with pool := pool, r := r }, .count d)
  | .rRead k => let (pool, r, out, _) := s.r.read s.pool k; ({ s with pool := pool, r := r }, .bytes out)
  | .rReset => ({ s with r := s.r.reset }, .none)
  | .rDone => let (pool, r) := s.r.release s.pool; ({ s with pool := pool, r := r }, .none)

/-- the two queues -/
def enext (q : Bytes × Bytes) : EOp → Bytes × Bytes
  | .write p => (q.1 ++ p, q.2)
  | .writev bs => (q.1 ++ bs.flatten, q.2)
  | .peek _ => q
  | .discard n => (q.1.drop n.toNat, q.2)
  | .read k => (q.1.drop k, q.2)
  | .reset _ => ([], q.2)
  | .release => ([], q.2)
  | .rWrite p => (q.1, q.2 ++ p)
  | .rPeek _ => q
  | .rDiscard n => (q.1, q.2.drop n.toNat)
  | .rRead k => (q.1, q.2.drop k)
  | .rReset => (q.1, [])
  | .rDone => (q.1, [])

def eok (q : Bytes × Bytes) : EOp → LObs → Prop
  | .write _, .none => True
  | .writev _, .none => True
  | .peek n, .slices bs => CoversPrefix n bs.flatten q.1
  | .discard n, .count d => d = min n.toNat q.1.length
  | .read k, .bytes b => b = q.1.take k
  | .reset _, .none => True
  | .release, .none => True
  | .rWrite _, .none => True
  | .rPeek n, .bytes b => b = if n ≤ 0 then q.2 else q.2.take n.toNat
  | .rDiscard n, .count d => d = min n.toNat q.2.length
  | .rRead k, .bytes b => b = q.2.take k
  | .rReset, .none => True
  | .rDone, .none => True
  | _, _ => False

def runE (s : EState) : List EOp → EState × List LObs
  | [] => (s, [])
  | op :: ops => let (s', o) := estep s op; let (s'', os) := runE s' ops; (s'', o :: os)

def EConforms : Bytes × Bytes → List EOp → List LObs → Prop
  | _, [], [] => True
  | q, op :: ops, o :: os => eok q op o ∧ EConforms (enext q op) ops os
  | _, _, _ => False

structure EOK (s : EState) : Prop where
  pool : PInv s.pool
  a : BInv s.a
  r : EInv s.r

def equeues (s : EState) : Bytes × Bytes := (s.a.content, s.r.content)

theorem estep_refines (s : EState) (h : EOK s) (op : EOp) :
    EOK (estep s op).1 ∧ equeues (estep s op).1 = enext (equeues s) op ∧ eok (equeues s) op (estep s op).2 := by
  cases op <;> dsimp only [estep, equeues, enext, eok]
  case write p =>
    obtain ⟨w1, w2, w3⟩ := ebuf_write_spec s.pool s.a h.pool h.a p
    exact ⟨⟨w1, w2, h.r⟩, congrArg (·, s.r.content) w3, trivial⟩
  case writev bs =>
    obtain ⟨w1, w2, w3⟩ := ebuf_writev_spec s.pool s.a h.pool h.a bs
    exact ⟨⟨w1, w2, h.r⟩, congrArg (·, s.r.content) w3, trivial⟩
  case peek n => exact ⟨h, rfl, ebuf_peek_spec s.a h.a n⟩
  case discard n =>
    obtain ⟨w1, w2, w3, w4⟩ := ebuf_discard_spec s.pool s.a h.pool h.a n
    exact ⟨⟨w1, w2, h.r⟩, congrArg (·, s.r.content) w3, w4⟩
  case read k =>
    obtain ⟨w1, w2, w3, w4⟩ := ebuf_read_spec s.pool s.a h.pool h.a k
    exact ⟨⟨w1, w2, h.r⟩, congrArg (·, s.r.content) w3, w4⟩
  case reset m =>
    obtain ⟨w1, w2⟩ := ebuf_reset_spec s.a h.a m
    exact ⟨⟨h.pool, w1, h.r⟩, congrArg (·, s.r.content) w2, trivial⟩
  case release =>
    obtain ⟨w1, w2, w3⟩ := ebuf_release_spec s.pool s.a h.pool h.a
    exact ⟨⟨w1, w2, h.r⟩, congrArg (·, s.r.content) w3, trivial⟩
  case rWrite p =>
    obtain ⟨w1, w2, w3⟩ := ering_write_spec s.pool s.r h.pool h.r p
    exact ⟨⟨w1, h.a, w2⟩, congrArg (s.a.content, ·) w3, trivial⟩
  case rPeek n => exact ⟨h, rfl, ering_peek_spec s.r h.r n⟩
  case rDiscard n =>
    obtain ⟨w1, w2, w3, w4⟩ := ering_discard_spec s.pool s.r h.pool h.r n
    exact ⟨⟨w1, h.a, w2⟩, congrArg (s.a.content, ·) w3, w4⟩
  case rRead k =>
    obtain ⟨w1, w2, w3, w4⟩ := ering_read_spec s.pool s.r h.pool h.r k
    exact ⟨⟨w1, h.a, w2⟩, congrArg (s.a.content, ·) w3, w4⟩
  case rReset =>
    obtain ⟨w1, w2⟩ := ering_reset_spec s.r h.r
    exact ⟨⟨h.pool, h.a, w1⟩, congrArg (s.a.content, ·) w2, trivial⟩
  case rDone =>
    obtain ⟨w1, w2, w3⟩ := ering_release_spec s.pool s.r h.pool h.r
    exact ⟨⟨w1, h.a, w2⟩, congrArg (s.a.content, ·) w3, trivial⟩

theorem runE_refines (ops : List EOp) (s : EState) (h : EOK s) :
    EOK (runE s ops).1 ∧ EConforms (equeues s) ops (runE s ops).2 := by
  induction ops generalizing s with
  | nil => exact ⟨h, trivial⟩
  | cons op ops ih =>
    obtain ⟨s1, s2, s3⟩ := estep_refines s h op
    obtain ⟨i1, i2⟩ := ih (estep s op).1 s1
    simp only [runE]
    exact ⟨i1, s3, by rw [← s2]; exact i2⟩

/-- **C19, elastic**: every operation sequence on a fresh `elastic.Buffer` and a fresh `elastic.RingBuffer` that
    share an (initially empty) ring pool conforms to two ideal queues; `Buffered` is exact; whatever sits in the
    pool afterwards is empty -/
theorem C19_elastic (maxStatic : Nat) (ops : List EOp) :
    let fin := (runE { a := { maxStatic := maxStatic } } ops).1
    EConforms ([], []) ops (runE { a := { maxStatic := maxStatic } } ops).2 ∧
    fin.a.buffered = fin.a.content.length ∧ fin.r.buffered = fin.r.content.length ∧
    (∀ r, fin.pool.priv = some r → Ring.content r = []) ∧ (∀ r ∈ fin.pool.shared, Ring.content r = []) := by
  obtain ⟨i1, i2⟩ := runE_refines ops { a := { maxStatic := maxStatic } } ⟨pinv_empty, binv_fresh maxStatic, einv_empty⟩
  exact ⟨i2, ebuf_buffered _ i1.a, ering_buffered _ i1.r, fun r hr => (i1.pool.priv r hr).2, fun r hr => (i1.pool.shared r hr).2⟩

/-! ### the users: a connection's write path under arbitrary short writes -/

open RcVerif.Lemmas.ConnIOBuf

theorem foldl_appends {σ Op : Type} (step : σ → Op → σ) (I : σ → Prop) (str : σ → Bytes) (sub : List Op → Bytes)
    (hnil : sub [] = []) (hcons : ∀ op ops, sub (op :: ops) = sub [op] ++ sub ops)
    (hstep : ∀ s, I s → ∀ op, I (step s op) ∧ str (step s op) = str s ++ sub [op])
    (ops : List Op) (s : σ) (h : I s) : str (ops.foldl step s) = str s ++ sub ops := by
  induction ops generalizing s with
  | nil => rw [hnil, List.append_nil]; rfl
  | cons op ops ih =>
    obtain ⟨h1, h2⟩ := hstep s h op
    rw [List.foldl_cons, ih _ h1, h2, hcons op ops, List.append_assoc]

inductive COp
  | writev (bs : List Bytes) (accepted : Nat)
  | write (data : Bytes) (accepted : Nat)
  | writable (accepted : Nat)
  deriving Repr

def cstep (s : Pool × ConnIO.Conn) : COp → Pool × ConnIO.Conn
  | .writev bs acc => ConnIO.writev s.1 s.2 bs acc
  | .write d acc => ConnIO.write s.1 s.2 d acc
  | .writable acc => ConnIO.flush s.1 s.2 acc

def submitted : List COp → Bytes
  | [] => []
  | .writev bs _ :: ops => bs.flatten ++ submitted ops
  | .write d _ :: ops => d ++ submitted ops
  | .writable _ :: ops => submitted ops

theorem cstep_spec (s : Pool × ConnIO.Conn) (h : CInv s.1 s.2) (op : COp) :
    CInv (cstep s op).1 (cstep s op).2 ∧ stream (cstep s op).2 = stream s.2 ++ submitted [op] := by
  cases op with
  | writev bs acc =>
    have := writev_spec s.1 s.2 h bs acc
    simpa [submitted, cstep] using this
  | write d acc =>
    have := RcVerif.Lemmas.ConnIOBuf.write_spec s.1 s.2 h d acc
    simpa [submitted, cstep] using this
  | writable acc =>
    have := flush_spec s.1 s.2 h acc
    simpa [submitted, cstep] using this

theorem submitted_cons (op : COp) (ops : List COp) : submitted (op :: ops) = submitted [op] ++ submitted ops := by
  cases op <;> simp [submitted]

/-- **C19, users**: for every sequence of writes, vectored writes and writable events and EVERY choice of how many
    bytes the kernel accepts each time, what is on the wire followed by what is backlogged is exactly what was
    submitted, in order -/
theorem C19_conn_stream (maxStatic : Nat) (ops : List COp) :
    let fin := ops.foldl cstep (({} : Pool), ({ out := { maxStatic := maxStatic } } : ConnIO.Conn))
    fin.2.wire ++ fin.2.out.content = submitted ops :=
  foldl_appends cstep (fun s => CInv s.1 s.2) (fun s => stream s.2) submitted rfl submitted_cons cstep_spec
    ops (({} : Pool), ({ out := { maxStatic := maxStatic } } : ConnIO.Conn)) (cinv_fresh maxStatic)

/-! ### the pending-write queue of a backend connection under arbitrary short writes -/

inductive QOp
  | enqueue (req : Bytes)             -- `EnqueueOutFrag`
  | signal (accepted : List Nat)      -- the poller runs `handleWriteSignal`; bytes accepted by each vectored write
  | writable (accepted : Nat)         -- a writable event drains the backlog
  deriving Repr

def bqstep (s : Pool × ConnIO.Conn) : QOp → Pool × ConnIO.Conn
  | .enqueue req => (s.1, ConnIO.enqueue s.2 req)
  | .signal accs => ConnIO.writeSignal s.1 s.2 accs
  | .writable acc => ConnIO.flush s.1 s.2 acc

def enqueued : List QOp → Bytes
  | [] => []
  | .enqueue req :: ops => req ++ enqueued ops
  | _ :: ops => enqueued ops

theorem bqstep_spec (s : Pool × ConnIO.Conn) (h : CInv s.1 s.2) (op : QOp) :
    CInv (bqstep s op).1 (bqstep s op).2 ∧ qstream (bqstep s op).2 = qstream s.2 ++ enqueued [op] := by
  cases op with
  | enqueue req =>
    have := enqueue_spec s.1 s.2 h req
    simpa [enqueued, bqstep] using this
  | signal accs =>
    have := writeSignal_spec s.1 s.2 h accs (by decide)
    simpa [enqueued, bqstep] using ⟨this.1, this.2.1⟩
  | writable acc =>
    have := flush_spec s.1 s.2 h acc
    refine ⟨this.1, ?_⟩
    simp only [bqstep, enqueued, List.append_nil, qstream, this.2, flush_queue]

theorem enqueued_cons (op : QOp) (ops : List QOp) : enqueued (op :: ops) = enqueued [op] ++ enqueued ops := by
  cases op <;> simp [enqueued]

/-- **C10 under a backlog**: for every sequence of requests queued on a backend connection, write signals and writable
    events, and EVERY choice of how many bytes the kernel accepts in each write, what is on the wire, followed by the
    backlog, followed by what is still queued, is exactly the requests in the order they were queued -/
theorem C10_queue_stream (maxStatic : Nat) (ops : List QOp) :
    let fin := ops.foldl bqstep (({} : Pool), ({ out := { maxStatic := maxStatic } } : ConnIO.Conn))
    fin.2.wire ++ fin.2.out.content ++ fin.2.queue.flatten = enqueued ops :=
  foldl_appends bqstep (fun s => CInv s.1 s.2) (fun s => qstream s.2) enqueued rfl enqueued_cons bqstep_spec
    ops (({} : Pool), ({ out := { maxStatic := maxStatic } } : ConnIO.Conn)) (cinv_fresh maxStatic)

/- non-vacuity: two requests queued, the kernel takes 3 bytes of the vectored write, a third request is queued behind
   the backlog, a writable event drains the backlog, the write signal runs while the kernel takes nothing: order kept -/
example :
    let fin := [QOp.enqueue [1, 2], .enqueue [3, 4], .signal [3], .enqueue [5, 6], .writable 2, .signal [0]].foldl bqstep
      (({} : Pool), ({ out := { maxStatic := 8 } } : ConnIO.Conn))
    fin.2.wire = [1, 2, 3, 4] ∧ fin.2.out.content = [5, 6] ∧ fin.2.queue = [] := by decide +kernel

/- non-vacuity, kernel-evaluated: wrap-around and growth on a 4-byte ring; spill into the list -/
example :
    (runR (Ring.new 4) [.write [1, 2, 3], .discard 2, .write [4, 5, 6], .peek (-1), .write [7, 8], .read 3, .peek 0]).2 =
      [.none, .count 2, .none, .bytes [3, 4, 5, 6], .none, .bytes [3, 4, 5], .bytes [6, 7, 8]] := by decide +kernel

example :
    (runE { a := { maxStatic := 4 } } [.write [1, 2, 3], .writev [[4, 5], [6]], .rWrite [9], .read 4, .rDone, .peek (-1)]).2 =
      [.none, .none, .none, .bytes [1, 2, 3, 4], .none, .slices [[5, 6]]] := by decide +kernel

end RcVerif.Props.C19
