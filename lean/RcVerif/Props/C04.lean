import RcVerif.Model.Route
import RcVerif.Model.Inst
import RcVerif.Spec.RefTables
/-
  C04 — every forwarded request or fragment goes to a node of the replica set
  owning the key's slot: writes, cursor scans and scripts to its master, reads
  to the master or one of its replicas, always the master when replica reads are
  disabled; a connection first authenticates (when a password is set) and, on a
  replica, switches to read-only mode.

  * `C04_route_in_set`, `C04_master_when_required`: decision logic, all topologies and draws.
  * `C04_classes`: over the REGENERATED command table - every command that may be
    served by a replica (code below the write marker, not a scan) is flagged
    read-only by Redis (frozen reference); scripts and everything else sit above it.
  * `C04_handshake`: the bytes sent on open.
-/
namespace RcVerif.Props.C04
open RcVerif RcVerif.Route

theorem masterOnly_eq_false {T : Tables} {d : Bool} {ty : Nat} : masterOnly T d ty = false ↔
    d = false ∧ ¬ ty > T.cWriteStart ∧ ty ≠ T.cHscan ∧ ty ≠ T.cSscan ∧ ty ≠ T.cZscan := by
  simp only [masterOnly, Bool.or_eq_false_iff, decide_eq_false_iff_not, and_assoc, ne_eq]

/-- whatever the draw, pools and flags: the chosen node belongs to the owning replica set -/
theorem C04_route_in_set (disableSlave : Bool) (hasPool : Bytes → Bool) (ty : Nat) (rs : RSet) (draw : Nat) :
    (route goTables disableSlave hasPool ty rs draw).1 = rs.master ∨
    (route goTables disableSlave hasPool ty rs draw).1 ∈ rs.slaves := by
  unfold route
  split
  · left; rfl
  · cases h : (candidates hasPool rs)[draw]? with
    | none => left; rfl
    | some a =>
      right
      have : a ∈ candidates hasPool rs := List.mem_of_getElem? h
      exact (List.mem_filter.mp this).1

/-- a replica is only ever chosen for a read while replica reads are enabled, and only one that has a pool -/
theorem C04_replica_only_for_reads (disableSlave : Bool) (hasPool : Bytes → Bool) (ty : Nat) (rs : RSet)
    (draw : Nat) (h : (route goTables disableSlave hasPool ty rs draw).2 = true) :
    disableSlave = false ∧ ¬ ty > goTables.cWriteStart ∧ ty ≠ goTables.cHscan ∧ ty ≠ goTables.cSscan ∧
    ty ≠ goTables.cZscan ∧ hasPool (route goTables disableSlave hasPool ty rs draw).1 = true := by
  unfold route at h ⊢
  rcases Bool.eq_false_or_eq_true (masterOnly goTables disableSlave ty) with hm | hm
  · rw [if_pos hm] at h; cases h
  · rw [hm, if_neg Bool.false_ne_true] at h ⊢
    obtain ⟨h1, h2, h3, h4, h5⟩ := masterOnly_eq_false.mp hm
    cases hc : (candidates hasPool rs)[draw]? with
    | none => rw [hc] at h; cases h
    | some a => exact ⟨h1, h2, h3, h4, h5, (List.mem_filter.mp (List.mem_of_getElem? hc)).2⟩

/-- writes, scans, scripts, or replica reads disabled: always the master -/
theorem C04_master_when_required (disableSlave : Bool) (hasPool : Bytes → Bool) (ty : Nat) (rs : RSet) (draw : Nat)
    (h : disableSlave = true ∨ ty > goTables.cWriteStart ∨ ty = goTables.cHscan ∨ ty = goTables.cSscan ∨ ty = goTables.cZscan) :
    route goTables disableSlave hasPool ty rs draw = (rs.master, false) := by
  unfold route masterOnly
  rcases h with h | h | h | h | h <;> simp [h]

def isIn (name : Bytes) (l : List Bytes) : Bool := l.contains name

/-- **table theorem** (kernel-evaluated over the regenerated table): a command that `route` may send
    to a replica is one Redis itself flags read-only; cursor scans are named exactly as in the
    reference; scripts sit above the write marker -/
theorem C04_classes : ∀ p ∈ goTables.str2type,
    ((p.2 < goTables.cWriteStart ∧ p.2 ≠ goTables.cHscan ∧ p.2 ≠ goTables.cSscan ∧ p.2 ≠ goTables.cZscan)
        → isIn p.1 Spec.refReadOnly = true ∧ isIn p.1 Spec.refScan = false) ∧
    (isIn p.1 Spec.refScan = true → (p.2 = goTables.cHscan ∨ p.2 = goTables.cSscan ∨ p.2 = goTables.cZscan)) ∧
    (p.2 ≠ goTables.cWriteStart) := by
  decide +kernel

theorem C04_scripts_to_master :
    goTables.cEval > goTables.cWriteStart ∧ goTables.cEvalsha > goTables.cWriteStart := by decide

/-- a command Redis does not flag read-only is never sent to a replica -/
theorem C04_writes_never_to_replica (hasPool : Bytes → Bool) (name : Bytes) (c : Nat) (rs : RSet) (draw : Nat)
    (hmem : (name, c) ∈ goTables.str2type) (hw : isIn name Spec.refReadOnly = false) :
    route goTables false hasPool c rs draw = (rs.master, false) := by
  have hc := C04_classes _ hmem
  rcases Bool.eq_false_or_eq_true (masterOnly goTables false c) with hm | hm
  · unfold route; rw [if_pos hm]
  · -- a command that may go to a replica is flagged read-only in the reference
    obtain ⟨_, h2, h3, h4, h5⟩ := masterOnly_eq_false.mp hm
    have := (hc.1 ⟨Nat.lt_of_le_of_ne (Nat.le_of_not_lt h2) hc.2.2, h3, h4, h5⟩).1
    rw [hw] at this; cases this

/-- the handshake: AUTH <password> iff a password is configured, followed by READONLY iff the
    connection is to a replica; one `+OK` is awaited for each -/
theorem C04_handshake (passwd : Bytes) (isSlave : Bool) :
    handshake Gen.strAuthCmd0 Gen.strReadOnly passwd isSlave =
      ((if passwd.isEmpty then [] else Gen.strAuthCmd0 ++ itoa passwd.length ++ [13, 10] ++ passwd ++ [13, 10])
        ++ (if isSlave then Gen.strReadOnly else []),
       (if passwd.isEmpty then 0 else 1) + (if isSlave then 1 else 0)) := rfl

/-- the AUTH / READONLY bytes are the well-formed commands a Redis server expects -/
theorem C04_handshake_wellformed :
    Gen.strAuthCmd0 = [42, 50, 13, 10, 36, 52, 13, 10, 97, 117, 116, 104, 13, 10, 36] ∧
    Gen.strReadOnly = [42, 49, 13, 10, 36, 56, 13, 10, 82, 69, 65, 68, 79, 78, 76, 89, 13, 10] := by
  decide

/- non-vacuity -/
example : (route goTables false (fun _ => true) goTables.cDel { master := [109], slaves := [[97]] } 0) = ([109], false) := by
  decide +kernel

example : (route goTables false (fun _ => true) 7 { master := [109], slaves := [[97]] } 0) = ([97], true) := by
  decide +kernel

end RcVerif.Props.C04
