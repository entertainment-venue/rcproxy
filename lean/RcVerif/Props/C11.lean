import RcVerif.Lemmas.MergeBasic
import RcVerif.Lemmas.Reply
import RcVerif.Model.SimInst
/-
  C11 — backend errors reach the client as errors, never as success or a crash.

  * single-key request: any error line that is not a redirect is the client's reply, verbatim;
  * split MGET / DEL / MSET: an error reply to ANY fragment, at any point of any arrival
    order, completes the whole request exactly once with that error; no merge code (and
    hence no panic) is reached; replies of the other fragments that arrive later are dropped.
-/
namespace RcVerif.Props.C11
open RcVerif RcVerif.Merge RcVerif.SDecode RcVerif.Spec RcVerif.Lemmas.MergeBasic RcVerif.Lemmas.Reply

/-- an error line a Redis node can produce that the proxy does not act on itself -/
def PlainError (line : Bytes) : Prop :=
  (10 : UInt8) ∉ line ∧ classifyError goTables (45 :: line) = goTables.rError

/-- such an error reply is framed exactly and classified as an error -/
theorem C11_error_framed (line t : Bytes) (h : PlainError line) :
    frameReply goTables (encReply (.error line) ++ t) = .ok goTables.rError (encReply (.error line)).length := by
  rw [frameReply_enc goTables (.error line) t h.1, cls, h.2]

/-- single-key: the error is the client's reply, byte for byte -/
theorem C11_single_verbatim (slot : Bytes → Nat) (limit : Nat) (m : MMsg) (s : Nat) (f : MFrag) (body : Bytes)
    (hf : getFrag m s = some f) (hnd : f.done = false) (herr : f.err = [])
    (hty : m.type ≠ goTables.cMget ∧ m.type ≠ goTables.cMset ∧ m.type ≠ goTables.cDel)
    (hsz : body.length ≤ limit) :
    let r := onReply goTables goMergeConsts slot limit m s goTables.rError body
    r.2 = .ready ∧ r.1.done = true ∧ r.1.rspBody = body :=
  default_passthrough goTables goMergeConsts slot limit m s goTables.rError body f hf hnd herr hty
    ⟨by decide, by decide⟩ hsz

/-- split request: an error on any fragment fails the whole request with that error, whatever
    state the other fragments are in -/
theorem C11_split_error (slot : Bytes → Nat) (limit : Nat) (m : MMsg) (s : Nat) (f : MFrag) (body : Bytes)
    (hf : getFrag m s = some f) (hnd : f.done = false) (herr : f.err = [])
    (hty : m.type = goTables.cMget ∨ m.type = goTables.cMset ∨ m.type = goTables.cDel)
    (hsz : body.length ≤ limit) (hb : body ≠ []) :
    let r := onReply goTables goMergeConsts slot limit m s goTables.rError body
    r.2 = .ready ∧ r.1.done = true ∧ r.1.rspBody = body ∧ r.1.err = body ∧ (∀ x ∈ r.1.frags, x.done = true) :=
  split_error goTables goMergeConsts slot limit m s body f hf hnd herr hty ⟨by decide, by decide⟩ hsz hb

/-- after that, whatever the other nodes answer is dropped and changes nothing: the request is
    completed exactly once -/
theorem C11_late_replies_dropped (slot : Bytes → Nat) (limit : Nat) (m : MMsg) (s rtype : Nat) (f : MFrag) (body : Bytes)
    (hf : getFrag m s = some f) (hd : f.done = true) :
    onReply goTables goMergeConsts slot limit m s rtype body = (m, .dropped) :=
  done_dropped goTables goMergeConsts slot limit m s rtype body f hf hd

/-- a reply over the size limit is replaced by the too-large error (single and split alike) -/
theorem C11_oversized_is_error (slot : Bytes → Nat) (limit : Nat) (m : MMsg) (s rtype : Nat) (f : MFrag) (body : Bytes)
    (hf : getFrag m s = some f) (hnd : f.done = false)
    (hr : rtype ≠ goTables.rMoved ∧ rtype ≠ goTables.rAsk) (hsz : body.length > limit) :
    let r := onReply goTables goMergeConsts slot limit m s rtype body
    r.2 = .ready ∧ r.1.done = true ∧ r.1.rspBody = Gen.strErrMsgRspTooLarge :=
  reply_too_large goTables goMergeConsts slot limit m s rtype body f hf hnd hr hsz (by decide)

/-- the real Redis error prefixes are plain errors; MOVED / ASK / auth failures are not -/
example : PlainError [69, 82, 82, 32, 118, 97, 108, 117, 101] := ⟨by decide, by decide +kernel⟩       -- "ERR value"
example : PlainError [87, 82, 79, 78, 71, 84, 89, 80, 69, 32, 120] := ⟨by decide, by decide +kernel⟩   -- "WRONGTYPE x"
example : PlainError [67, 76, 85, 83, 84, 69, 82, 68, 79, 87, 78] := ⟨by decide, by decide +kernel⟩   -- "CLUSTERDOWN"
example : ¬ PlainError [77, 79, 86, 69, 68, 32, 49, 32, 97] := by                                      -- "MOVED 1 a"
  intro h; have := h.2; revert this; decide +kernel

end RcVerif.Props.C11
