import RcVerif.Lemmas.MergeBasic
import RcVerif.Lemmas.Reply
import RcVerif.Lemmas.Group
/-
  MGET reassembly: the array a node returns for a fragment is parsed back into
  its elements (binary-safe); whatever order the fragments are answered in, the
  request completes exactly at the last answer with one element per requested key
  in request order.
-/
open RcVerif RcVerif.Merge RcVerif.Spec RcVerif.Lemmas.Decimal RcVerif.Lemmas.Frame RcVerif.Lemmas.Reply
open RcVerif.Lemmas.MergeBasic

namespace RcVerif.Lemmas.MergeMGet

/-- what a node returns for one key of an MGET -/
inductive Val
  | bulk (b : Bytes)
  | null
  deriving DecidableEq

def Val.reply : Val → Reply
  | .bulk b => .bulk b
  | .null => .nullBulk

def Val.enc (v : Val) : Bytes := encReply v.reply

def Val.WF : Val → Prop
  | .bulk b => Small b.length
  | .null => True

theorem enc_bulk (b : Bytes) : (Val.bulk b).enc = CDecode.bulk b := rfl

theorem enc_null : Val.null.enc = [36, 45, 49, 13, 10] := rfl

theorem parseMGetLoop_enc (v : Val) (hv : v.WF) (fuel : Nat) (t : Bytes) (acc : List Bytes) :
    parseMGetLoop (fuel + 1) (v.enc ++ t) acc = parseMGetLoop fuel t (acc ++ [v.enc]) := by
  cases v with
  | null =>
    rw [parseMGetLoop, show Val.null.enc ++ t = [36, 45, 49] ++ 13 :: 10 :: t from rfl,
      readLine_line _ _ (by simp) (by decide)]
    rfl
  | bulk b =>
    rw [parseMGetLoop, enc_bulk, bulk_append, readLine_header 36 _ _ (by decide)]
    simp only [List.tail_cons, parseLen_itoa b.length hv]
    rw [if_neg (ofNat_not_neg _), show (Int.ofNat b.length).toNat = b.length from rfl, readN_append b _ (by simp)]
    simp only [readN_crlf]
    rfl

section
variable {α : Type} (val : α → Val)

theorem parseMGetLoop_vals : ∀ (l : List α) (fuel : Nat) (acc : List Bytes), (∀ k ∈ l, (val k).WF) → l.length < fuel →
    parseMGetLoop fuel (l.map fun k => (val k).enc).flatten acc = some (acc ++ l.map fun k => (val k).enc)
  | _, 0, _, _, hf => absurd hf (Nat.not_lt_zero _)
  | [], _ + 1, acc, _, _ => by rw [List.map_nil, List.append_nil]; rfl
  | k :: l, f + 1, acc, h, hf => by
    rw [List.map_cons, List.flatten_cons, parseMGetLoop_enc _ (h k List.mem_cons_self) f,
      parseMGetLoop_vals l f _ (fun x hx => h x (List.mem_cons_of_mem _ hx)) (Nat.lt_of_succ_lt_succ hf),
      List.append_assoc]
    rfl

theorem flatten_len_ge (l : List α) : l.length ≤ (l.map fun k => (val k).enc).flatten.length := by
  induction l with
  | nil => exact Nat.le_refl 0
  | cons k l ih =>
    have : 3 ≤ (val k).enc.length := (need_le (val k).reply).2
    simp only [List.map_cons, List.flatten_cons, List.length_append, List.length_cons]
    omega

theorem encReplies_vals (l : List α) : encReplies (l.map fun k => (val k).reply) = (l.map fun k => (val k).enc).flatten := by
  induction l with
  | nil => rfl
  | cons x xs ih => simp [encReplies, ih, Val.enc]

theorem parseMGet_vals (l : List α) (h : ∀ k ∈ l, (val k).WF) (hs : Small l.length) :
    parseMGet (encReply (.array (l.map fun k => (val k).reply))) = some (some (l.map fun k => (val k).enc)) := by
  rw [encReply, line_append, List.length_map, encReplies_vals, parseMGet, readLine_header 42 _ _ (by decide)]
  simp only [List.tail_cons, parseLen_itoa l.length hs]
  rw [if_neg (ofNat_not_neg _), parseMGetLoop_vals val l _ [] h (Nat.lt_succ_of_le (flatten_len_ge val l))]
  rfl

end

open RcVerif.CDecode RcVerif.Lemmas.Group

section mget
variable (T : Tables) (K : Consts) (slotFn : Bytes → Nat) (limit : Nat) (val : Bytes → Val)

/-- keys of the request that live in slot `s`, in request order -/
def grpOf (keys : List Bytes) (s : Nat) : List Bytes := keys.filter (fun k => slotFn k = s)

/-- the node's answer to the fragment of slot `s` -/
def bodyOf (keys : List Bytes) (s : Nat) : Bytes :=
  encReply (.array ((grpOf slotFn keys s).map (fun k => (val k).reply)))

def rspOf (keys : List Bytes) (s : Nat) : List Bytes := (grpOf slotFn keys s).map (fun k => (val k).enc)

/-- the reply the client must get: one element per requested key, in request order -/
def finalOf (keys : List Bytes) : Bytes := encReply (.array (keys.map (fun k => (val k).reply)))

structure Init (m0 : MMsg) : Prop where
  type : m0.type = T.cMget
  groups : m0.groups = groupBySlot slotFn m0.keys
  fresh : ∀ fr ∈ m0.frags, fr.done = false ∧ fr.err = []
  slots : ∀ s, (∃ ks, (s, ks) ∈ m0.groups) ↔ s ∈ m0.frags.map (·.slot)
  notDone : m0.done = false
  fragDone : m0.fragDone = 0

/-- how MGET records the answer of the node of slot `s` in the fragment; reducible, because `mergeMGet` spells the
    update out and `setFrag_mid` has to be recognised there -/
abbrev mark (keys : List Bytes) (s : Nat) (fr : MFrag) : MFrag :=
  { fr with rsp := rspOf slotFn val keys s, done := true, rtype := T.rMultibulk }

theorem parse_body (keys : List Bytes) (s : Nat) (hv : ∀ k, (val k).WF) (hs : Small keys.length) :
    parseMGet (bodyOf slotFn val keys s) = some (some (rspOf slotFn val keys s)) :=
  parseMGet_vals val _ (fun k _ => hv k) (Nat.lt_of_le_of_lt (List.length_filter_le _ _) hs)

theorem slot_iff (m0 : MMsg) (hi : Init T slotFn m0) (s : Nat) :
    s ∈ m0.frags.map (·.slot) ↔ grpOf slotFn m0.keys s ≠ [] := by
  rw [← hi.slots, hi.groups]
  constructor
  · intro ⟨ks, hks⟩
    obtain ⟨rfl, hne⟩ := (group_mem slotFn m0.keys s ks).mp hks
    exact hne
  · exact fun hne => ⟨_, (group_mem slotFn m0.keys s _).mpr ⟨rfl, hne⟩⟩

theorem indexOfKey_mem (k : Bytes) (l : List Bytes) (h : k ∈ l) : ∃ i, indexOfKey k l = some i ∧ l[i]? = some k := by
  induction l with
  | nil => cases h
  | cons x xs ih =>
    by_cases hx : x = k
    · exact ⟨0, if_pos hx, congrArg some hx⟩
    · obtain ⟨i, h1, h2⟩ := ih ((List.mem_cons.mp h).resolve_left fun e => hx e.symm)
      exact ⟨i + 1, (if_neg hx).trans (congrArg (Option.map (· + 1)) h1), h2⟩

theorem finalOf_eq (keys : List Bytes) :
    finalOf val keys = [42] ++ itoa keys.length ++ [13, 10] ++ (keys.map (fun k => (val k).enc)).flatten := by
  rw [finalOf, encReply, encReplies_vals, List.length_map]

/-- once every fragment is answered the assembly loop finds, for each requested key in request
    order, the element its node returned for it -/
theorem assemble_all (m0 : MMsg) (hi : Init T slotFn m0) (qs : List Nat)
    (hall : ∀ s ∈ m0.frags.map (·.slot), s ∈ qs) (ks : List Bytes) (hks : ∀ k ∈ ks, k ∈ m0.keys) (acc : Bytes) :
    assembleMGet slotFn (mid (mark T slotFn val m0.keys) m0 qs) ks acc
      = some (acc ++ (ks.map (fun k => (val k).enc)).flatten) := by
  induction ks generalizing acc with
  | nil => simp [assembleMGet]
  | cons k ks ih =>
    -- the group of the key's slot holds the key, so it is not empty: it is listed, and a fragment goes with it
    have hk : k ∈ grpOf slotFn m0.keys (slotFn k) := List.mem_filter.mpr ⟨hks k List.mem_cons_self, decide_eq_true rfl⟩
    have hlook : Commands.lookup (slotFn k) (mid (mark T slotFn val m0.keys) m0 qs).groups
        = some (grpOf slotFn m0.keys (slotFn k)) :=
      hi.groups ▸ lookup_group slotFn m0.keys _ (List.ne_nil_of_mem hk)
    obtain ⟨i, hidx, hget⟩ := indexOfKey_mem k _ hk
    have hslot : slotFn k ∈ m0.frags.map (·.slot) := (slot_iff T slotFn m0 hi _).mpr (List.ne_nil_of_mem hk)
    obtain ⟨fr, hfr⟩ := getFrag_of_mem m0 _ hslot
    have hfs : fr.slot = slotFn k := (getFrag_some_mem m0 _ fr hfr).2
    -- that fragment has been answered, so it carries the node's elements
    have hgm : getFrag (mid (mark T slotFn val m0.keys) m0 qs) (slotFn k) = some (mark T slotFn val m0.keys (slotFn k) fr) := by
      rw [getFrag_mid (mark T slotFn val m0.keys) (fun _ _ => rfl), hfr, Option.map_some,
        upd_pos _ (hfs ▸ hall _ hslot), hfs]
    have hrsp : (mark T slotFn val m0.keys (slotFn k) fr).rsp[i]? = some (val k).enc := by
      rw [mark, rspOf, List.getElem?_map, hget]; rfl
    simp only [assembleMGet, hlook, hidx, hgm, hrsp, List.map_cons, List.flatten_cons]
    rw [ih fun x hx => hks x (List.mem_cons_of_mem _ hx), List.append_assoc]

/-- answering one more fragment: the request waits while others are outstanding; the last answer completes it
    with one element per requested key, in request order -/
theorem mget_step (m0 : MMsg) (hi : Init T slotFn m0) (hv : ∀ k, (val k).WF)
    (hsm : Small m0.keys.length) (ps : List Nat) (s : Nat) (hs : s ∉ ps) (hmem : s ∈ m0.frags.map (·.slot))
    (hall : ¬ ps.length + 1 < m0.frags.length → ∀ x ∈ m0.frags.map (·.slot), x ∈ ps ++ [s])
    (hfin : (finalOf val m0.keys).length ≤ limit) :
    mergeMGet K slotFn limit (bump (mid (mark T slotFn val m0.keys) m0 ps)) s T.rMultibulk (bodyOf slotFn val m0.keys s)
      = if ps.length + 1 < m0.frags.length then (mid (mark T slotFn val m0.keys) m0 (ps ++ [s]), .waiting)
        else (finish (mid (mark T slotFn val m0.keys) m0 (ps ++ [s])) (finalOf val m0.keys), .ready) := by
  have h1 : ¬ (rspOf slotFn val m0.keys s).length < 1 := by
    rw [rspOf, List.length_map]
    exact Nat.not_lt.mpr (List.length_pos_iff.mpr ((slot_iff T slotFn m0 hi s).mp hmem))
  unfold mergeMGet
  simp only [parse_body slotFn val m0.keys s hv hsm, Option.getD_some,
    setFrag_mid (mark T slotFn val m0.keys) (fun _ _ => rfl) m0 ps s hs, h1, ↓reduceIte, mid_waiting]
  refine ite_congr rfl (fun _ => rfl) fun hw => ?_
  rw [show (mid (mark T slotFn val m0.keys) m0 (ps ++ [s])).keys = m0.keys from rfl,
    assemble_all T slotFn val m0 hi (ps ++ [s]) (hall hw) m0.keys (fun _ h => h), ← finalOf_eq]
  simp only [Nat.not_lt.mpr hfin, ↓reduceIte]
  rfl

/-- feed the fragments' replies in the given order -/
def feedOrder (m : MMsg) (order : List Nat) (keys : List Bytes) : MMsg × List Signal :=
  order.foldl (fun (acc : MMsg × List Signal) s =>
    let r := onReply T K slotFn limit acc.1 s T.rMultibulk (bodyOf slotFn val keys s)
    (r.1, acc.2 ++ [r.2])) (m, [])

theorem mget_any_order (hr : T.rMultibulk ≠ T.rMoved ∧ T.rMultibulk ≠ T.rAsk ∧ T.rMultibulk ≠ T.rError)
    (m0 : MMsg) (hi : Init T slotFn m0) (hv : ∀ k, (val k).WF) (hsm : Small m0.keys.length) (hnd : (m0.frags.map (·.slot)).Nodup) (hne : m0.frags ≠ [])
    (hsz : ∀ s, (bodyOf slotFn val m0.keys s).length ≤ limit) (hfin : (finalOf val m0.keys).length ≤ limit)
    (order : List Nat) (hperm : order.Perm (m0.frags.map (·.slot))) :
    feedOrder T K slotFn limit val m0 order m0.keys
      = (finish (mid (mark T slotFn val m0.keys) m0 order) (finalOf val m0.keys),
         List.replicate (order.length - 1) Signal.waiting ++ [Signal.ready]) := by
  refine feed_any_order (fun m s => onReply T K slotFn limit m s T.rMultibulk (bodyOf slotFn val m0.keys s))
    (mid (mark T slotFn val m0.keys) m0)
    (fun ps => finish (mid (mark T slotFn val m0.keys) m0 ps) (finalOf val m0.keys)) _ hnd
    (fun ps s hs hmem hall => ?_) (by simpa using hne) (mid_nil _ m0 hi.fragDone) order hperm
  rw [onReply_merge T K slotFn limit _ s _ _
    (getFrag_mid_fresh (mark T slotFn val m0.keys) (fun _ _ => rfl) m0 hi.fresh ps s hs hmem)
    ⟨hr.1, hr.2.1⟩ (fun h => hr.2.2 h.1) (hsz s)]
  simp only [show (mid (mark T slotFn val m0.keys) m0 ps).type = T.cMget from hi.type, ↓reduceIte, List.length_map] at hall ⊢
  exact mget_step T K slotFn limit val m0 hi hv hsm ps s hs hmem hall hfin

end mget
end RcVerif.Lemmas.MergeMGet
