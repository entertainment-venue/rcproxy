import RcVerif.Props.C13
/-
  Termination of redirect handling, over all histories: the number of times a fragment has been re-queued by a
  redirect never exceeds its redirect counter, nor `maxRedirects`. The counter is written by `onMoved` only
  (`Advances` for every reply merge and every completion), re-sends are queued by `onMoved` only (`RKeep` for
  everything else), and `onMoved` re-sends only below the bound, raising the counter with it.
-/
namespace RcVerif.Lemmas.SimRedir
open RcVerif RcVerif.Sim RcVerif.Merge RcVerif.Lemmas.SimSteps RcVerif.Lemmas.MergeBasic
open RcVerif.Props.C13 (redOf)

/-! ### the redirect counter is written by nothing but `onMoved` -/

theorem redOf_of_advances {m m' : MMsg} (h : Advances m m') (slot : Nat) : redOf m' slot = redOf m slot := by
  obtain ⟨g, hg, he⟩ := h
  unfold redOf
  rw [he]
  cases getFrag m slot with
  | none => rfl
  | some f => exact (hg f).1

theorem advances_failedMsg (m : MMsg) (slot : Nat) (e : Bytes) : Advances m (failedMsg e m slot) :=
  (Advances.setFrag m slot (fun f => { f with err := e }) fun _ => ⟨rfl, rfl, id⟩).trans
    ((Advances.of_frags rfl).trans (.allDone _))

/-! ### counting re-sends -/

/-- a re-queued fragment (by a redirect): same fragment reference, not queued directly by a client request -/
def isResend (mi slot : Nat) (e : QEntry) : Bool := decide (e.ref = .frag mi slot) && e.direct.isNone

def resendsIn (l : List QEntry) (mi slot : Nat) : Nat := (l.filter (isResend mi slot)).length

/-- how often the fragment has been re-sent, over all connections -/
def resends (s : State) (mi slot : Nat) : Nat := (s.backends.map (fun b => resendsIn b.enq mi slot)).sum

def red (s : State) (mi slot : Nat) : Nat := match s.msgs[mi]? with | some r => redOf r.m slot | none => 0

structure RKeep (s s' : State) : Prop where
  red : ∀ mi slot, red s' mi slot = red s mi slot
  res : ∀ mi slot, resends s' mi slot = resends s mi slot

theorem RKeep.refl (s : State) : RKeep s s := ⟨fun _ _ => rfl, fun _ _ => rfl⟩
theorem RKeep.trans {a b c : State} (h1 : RKeep a b) (h2 : RKeep b c) : RKeep a c :=
  ⟨fun mi slot => by rw [h2.red, h1.red], fun mi slot => by rw [h2.res, h1.res]⟩

/-- the counter of a fragment is read off its request alone -/
theorem red_congr {s s' : State} {mi : Nat} (h : s'.msgs[mi]? = s.msgs[mi]?) (slot : Nat) : red s' mi slot = red s mi slot := by
  unfold red; rw [h]

theorem red_some {s : State} {mi : Nat} {r : Req} (hr : s.msgs[mi]? = some r) (slot : Nat) : red s mi slot = redOf r.m slot := by
  unfold red; rw [hr]

theorem red_none {s : State} {mi : Nat} (h : s.msgs[mi]? = none) (slot : Nat) : red s mi slot = 0 := by
  unfold red; rw [h]

theorem rkeep_of_eq (s s' : State) (hm : s'.msgs = s.msgs) (hb : s'.backends = s.backends) : RKeep s s' :=
  ⟨fun mi slot => red_congr (by rw [hm]) slot, fun mi slot => by unfold resends; rw [hb]⟩

theorem rkeep_fail (s : State) (w : String) : RKeep s (s.fail w) := rkeep_of_eq _ _ (same_fail s w).2 (backends_fail s w)
theorem rkeep_updClient (s : State) (c : Nat) (f : Client → Client) : RKeep s (s.updClient c f) := rkeep_of_eq _ _ rfl rfl
theorem rkeep_flushClient (s : State) (c : Nat) : RKeep s (flushClient s c) :=
  rkeep_of_eq _ _ (msgs_flushClient s c) (cs_flushClient s c).backends
theorem rkeep_dropTimeout (s : State) (f : FragRef) : RKeep s (dropTimeout s f) := rkeep_of_eq _ _ rfl rfl

theorem red_updReq_other (s : State) (mi mj : Nat) (f : Req → Req) (slot : Nat) (h : mj ≠ mi) :
    red (s.updReq mi f) mj slot = red s mj slot :=
  red_congr (msgs_upd_other s mi mj f h) slot

theorem rkeep_updReq (s : State) (mi : Nat) (f : Req → Req) (hf : ∀ r, s.msgs[mi]? = some r → Advances r.m (f r).m) :
    RKeep s (s.updReq mi f) := by
  refine ⟨fun mj slot => ?_, fun _ _ => rfl⟩
  by_cases h : mj = mi
  · subst h
    cases hr : s.msgs[mj]? with
    | none => exact red_congr (by rw [show (s.updReq mj f).msgs = s.msgs from setAt_none _ _ _ hr]) slot
    | some r => rw [red_some (msgs_upd_same s mj f r hr), red_some hr]; exact redOf_of_advances (hf r hr) slot
  · exact red_updReq_other s mi mj f slot h

theorem redOf_zero_of_frags (m : MMsg) (h : ∀ f ∈ m.frags, f.redirects = 0) (slot : Nat) : redOf m slot = 0 := by
  unfold redOf
  cases hg : getFrag m slot with
  | none => rfl
  | some f =>
    have := h f (getFrag_some_mem m slot f hg).1
    simp [this]

theorem rkeep_appendMsg (s : State) (r : Req) (h : ∀ f ∈ r.m.frags, f.redirects = 0) : RKeep s { s with msgs := s.msgs ++ [r] } := by
  refine ⟨fun mi slot => ?_, fun _ _ => rfl⟩
  have hnew : ({ s with msgs := s.msgs ++ [r] } : State).msgs[mi]? = _ := getElem?_append_new s.msgs r mi
  by_cases hlt : mi < s.msgs.length
  · exact red_congr (hnew.trans (if_pos hlt)) slot
  · rw [if_neg hlt] at hnew
    rw [red_none (List.getElem?_eq_none (Nat.le_of_not_lt hlt))]
    by_cases heq : mi = s.msgs.length
    · rw [red_some (hnew.trans (if_pos heq)), redOf_zero_of_frags r.m h slot]
    · exact red_none (hnew.trans (if_neg heq)) slot

theorem ofCMsg_red0 (cm : CDecode.CMsg) : ∀ f ∈ (ofCMsg cm).frags, f.redirects = 0 := by
  intro f hf
  simp only [ofCMsg, List.mem_map] at hf
  obtain ⟨p, _, rfl⟩ := hf
  rfl

theorem rkeep_pushReq (s : State) (c : Nat) (r : Req) (h : ∀ f ∈ r.m.frags, f.redirects = 0) : RKeep s (pushReq s c r) :=
  (rkeep_appendMsg s r h).trans (rkeep_updClient _ c _)

theorem rkeep_answerLocal (s : State) (c : Nat) (cm : CDecode.CMsg) (out : Bytes) : RKeep s (answerLocal s c (ofCMsg cm) out) :=
  answerLocal_cases s c _ out (RKeep.refl s) (fun _ _ _ => rkeep_updClient s c _) fun _ _ _ => rkeep_pushReq s c _ (ofCMsg_red0 cm)

theorem rkeep_updBackend (s : State) (b : Nat) (f : Backend → Backend) (hf : ∀ x, (f x).enq = x.enq) : RKeep s (s.updBackend b f) := by
  refine ⟨fun _ _ => rfl, fun mi slot => ?_⟩
  show ((setAt s.backends b f).map _).sum = _
  cases hx : s.backends[b]? with
  | none => rw [setAt_none _ _ _ hx]; rfl
  | some x => exact sum_map_setAt s.backends b f (fun b => resendsIn b.enq mi slot) x 0 hx (by rw [hf x]; rfl)

theorem resendsIn_concat (l : List QEntry) (e : QEntry) (mi slot : Nat) :
    resendsIn (l ++ [e]) mi slot = resendsIn l mi slot + if isResend mi slot e = true then 1 else 0 := by
  unfold resendsIn
  rw [List.filter_append, List.length_append, List.filter_cons, List.filter_nil]
  cases isResend mi slot e <;> rfl

theorem resends_enqueueOut (s : State) (b : Nat) (e : QEntry) (mi slot : Nat) :
    resends (enqueueOut s b e) mi slot =
      resends s mi slot + (if (s.backends[b]?).isSome ∧ isResend mi slot e = true then 1 else 0) := by
  show ((setAt s.backends b _).map _).sum = _
  cases hx : s.backends[b]? with
  | none => rw [setAt_none _ _ _ hx]; rfl
  | some x =>
    rw [sum_map_setAt s.backends b _ (fun b => resendsIn b.enq mi slot) x _ hx (resendsIn_concat x.enq e mi slot)]
    simp [resends]

theorem rkeep_enqueueOut_other (s : State) (b : Nat) (e : QEntry) (h : ∀ mi slot, isResend mi slot e = false) :
    RKeep s (enqueueOut s b e) := by
  refine ⟨fun _ _ => rfl, fun mi slot => ?_⟩
  rw [resends_enqueueOut]; simp [h mi slot]

theorem rkeep_appendBackend (s : State) (x : Backend) (ps : List Pool) (hx : x.enq = []) :
    RKeep s { s with backends := s.backends ++ [x], pools := ps } := by
  refine ⟨fun _ _ => rfl, fun mi slot => ?_⟩
  unfold resends
  simp [resendsIn, hx]

theorem rkeep_poolGet (S : Strs) (cfg : Cfg) (s : State) (p : Nat) : RKeep s (poolGet S cfg s p).1 :=
  poolGet_rel S cfg s p (rkeep_fail s _) (fun _ => rkeep_of_eq _ _ rfl rfl) (fun _ _ _ => rkeep_appendBackend s _ _ rfl)

theorem rkeep_writeSignal (S : Strs) (cfg : Cfg) (s : State) (b : Nat) : RKeep s (writeSignal S cfg s b) := by
  refine writeSignal_cases S cfg s b (RKeep.refl s) fun _ _ _ _ => RKeep.trans ?_ (rkeep_of_eq (s.updBackend b _) _ rfl rfl)
  exact rkeep_updBackend s b _ fun _ => rfl

theorem rkeep_resolve (T : Tables) (S : Strs) (cfg : Cfg) (ty : Nat) (s : State) (vs : List (Nat × Bytes)) (acc : List (Nat × Nat)) :
    RKeep s (resolve T S cfg ty s vs acc).1 :=
  resolve_rel T S cfg ty RKeep.refl RKeep.trans rkeep_fail (rkeep_poolGet S cfg) s vs acc

theorem rkeep_foldl_enqueue_direct (targets : List (Nat × Nat)) (g : Nat × Nat → QEntry) (s : State)
    (hg : ∀ t, (g t).direct.isSome = true) : RKeep s (targets.foldl (fun st t => enqueueOut st t.2 (g t)) s) :=
  foldl_rel RKeep.refl RKeep.trans (fun s t => rkeep_enqueueOut_other s _ (g t) fun _ _ => by simp [isResend, hg t]) targets s

theorem rkeep_acceptReq (s : State) (c : Nat) (m : MMsg) (h : ∀ f ∈ m.frags, f.redirects = 0) : RKeep s (acceptReq s c m).1 :=
  acceptReq_cases (P := fun p => RKeep s p.1) s c m (RKeep.refl s) fun _ _ => rkeep_pushReq s c _ h

theorem rkeep_forward (T : Tables) (S : Strs) (cfg : Cfg) (s : State) (c : Nat) (cm : CDecode.CMsg) (ch : ReqChoice) :
    RKeep s (forward T S cfg s c cm ch) := by
  have h1 := rkeep_resolve T S cfg cm.type s ch.visit []
  refine forward_cases T S cfg s c cm ch (rkeep_fail s _) (fun e => h1.trans (rkeep_answerLocal _ c cm e)) (fun _ => h1)
    (h1.trans (rkeep_fail _ _)) (h1.trans ((rkeep_acceptReq _ c _ fun f hf => ?_).trans
      (rkeep_foldl_enqueue_direct _ _ _ fun _ => rfl)))
  obtain ⟨t, _, hg⟩ := List.mem_filterMap.mp hf
  exact ofCMsg_red0 cm f (getFrag_some_mem _ _ f hg).1

theorem rkeep_onRequest (T : Tables) (S : Strs) (cfg : Cfg) (s : State) (c : Nat) (cm : CDecode.CMsg) (ch : ReqChoice) :
    RKeep s (onRequest T S cfg s c cm ch).1 :=
  onRequest_cases T S cfg s c cm ch (rkeep_answerLocal s c cm) (rkeep_forward T S cfg s c cm ch)

/-! ### the re-send bound -/

/-- no fragment has been re-sent more often than its redirect counter says, and never more than `maxRedirects` times -/
def RInv (S : Strs) (s : State) : Prop := ∀ mi slot, resends s mi slot ≤ min (red s mi slot) S.maxRedirects

theorem rinv_keep {S : Strs} {s s' : State} (hk : RKeep s s') (h : RInv S s) : RInv S s' := by
  intro mi slot; rw [hk.red, hk.res]; exact h mi slot

theorem red_bumpRed (s : State) (mi slot : Nat) (r : Req) (fr : MFrag) (hr : s.msgs[mi]? = some r)
    (hfr : getFrag r.m slot = some fr) (mj slot' : Nat) :
    red (bumpRed s mi slot) mj slot' = if mj = mi ∧ slot' = slot then red s mj slot' + 1 else red s mj slot' := by
  by_cases hmj : mj = mi
  · subst hmj
    rw [red_some (msgs_bumpRed s mj slot r hr), red_some hr]
    unfold redOf
    rw [getFrag_setFrag r.m slot (fun f => { f with redirects := f.redirects + 1 }) (fun _ => rfl)]
    by_cases hs : slot' = slot
    · subst hs; simp [hfr]
    · simp [hs]
  · rw [show red (bumpRed s mi slot) mj slot' = _ from red_updReq_other s mi mj _ slot' hmj]; simp [hmj]

theorem resends_bumpRed (s : State) (mi slot mj slot' : Nat) : resends (bumpRed s mi slot) mj slot' = resends s mj slot' := rfl

theorem rinv_bumpRed (S : Strs) (s : State) (mi slot : Nat) (r : Req) (fr : MFrag) (hr : s.msgs[mi]? = some r)
    (hfr : getFrag r.m slot = some fr) (h : RInv S s) : RInv S (bumpRed s mi slot) := by
  intro mj slot'
  rw [resends_bumpRed, red_bumpRed s mi slot r fr hr hfr]
  have := h mj slot'
  split <;> omega

/-- one more entry for fragment `(mi, slot)` is queued: within the bound if there was room for one more re-send of it -/
theorem rinv_enqueueOut (S : Strs) (s : State) (b : Nat) (e : QEntry) (mi slot : Nat) (he : e.ref = .frag mi slot)
    (h : RInv S s) (hroom : resends s mi slot + 1 ≤ min (red s mi slot) S.maxRedirects) : RInv S (enqueueOut s b e) := by
  intro mj slot'
  rw [resends_enqueueOut]
  show _ ≤ min (red s mj slot') _
  split
  · rename_i hre
    -- `e` re-sends `(mj, slot')`: that is `(mi, slot)`
    cases (of_decide_eq_true (Bool.and_eq_true_iff.mp hre.2).1).symm.trans he
    exact hroom
  · exact h mj slot'

/-- `OnMoved` keeps the bound: a re-send happens only below the bound and raises the counter with it -/
theorem rinv_onMoved (S : Strs) (cfg : Cfg) (s : State) (mi slot : Nat) (isAsk : Bool) (addr : Bytes)
    (h : RInv S s) (hex : ∀ r, s.msgs[mi]? = some r → ∃ f, getFrag r.m slot = some f) :
    RInv S (onMoved S cfg s mi slot isAsk addr) := by
  have h1 : ∀ r, s.msgs[mi]? = some r → RInv S (bumpRed s mi slot) := fun r hr =>
    (hex r hr).elim fun fr hfr => rinv_bumpRed S s mi slot r fr hr hfr h
  refine onMoved_cases S cfg s mi slot isAsk addr (fun _ => rinv_keep (rkeep_fail s _) h) (fun r e hr => ?_)
    fun r p hr _ hbound => ?_
  · exact rinv_keep (rkeep_flushClient _ _) (rinv_keep (rkeep_updReq _ _ _ fun r0 _ => advances_failedMsg r0.m slot e) (h1 r hr))
  · obtain ⟨fr, hfr⟩ := hex r hr
    -- the counter has gone up and is within the bound, the number of re-sends is as it was: room for one
    have hres : resends s mi slot ≤ redOf r.m slot := red_some hr slot ▸ (Nat.le_min.mp (h mi slot)).1
    have hroom : resends (bumpRed s mi slot) mi slot + 1 ≤ min (red (bumpRed s mi slot) mi slot) S.maxRedirects := by
      rw [resends_bumpRed, red_bumpRed s mi slot r fr hr hfr, if_pos ⟨rfl, rfl⟩, red_some hr]
      exact Nat.le_min.mpr ⟨Nat.succ_le_succ hres, Nat.le_trans (Nat.succ_le_succ hres) hbound⟩
    -- until the fragment is queued again nothing is counted: only ASKING may be queued in between
    refine resendTo_cases (R := RKeep) S cfg _ mi slot isAsk p RKeep.refl
      (fun st b => rkeep_enqueueOut_other st b _ fun _ _ => rfl) fun st hk => ?_
    have hk := (rkeep_poolGet S cfg _ p).trans hk
    exact rinv_enqueueOut S st _ _ mi slot rfl (rinv_keep hk (h1 r hr)) (by rw [hk.res, hk.red]; exact hroom)

theorem rkeep_pop (s : State) (b : Nat) (f : FragRef) (inQ' : List FragRef) :
    RKeep s (dropTimeout (s.updBackend b (fun x => { x with inQ := inQ' })) f) :=
  (rkeep_updBackend s b (fun x => { x with inQ := inQ' }) fun _ => rfl).trans (rkeep_dropTimeout _ f)

theorem rinv_onFragReply (T : Tables) (S : Strs) (cfg : Cfg) (slotFn : Bytes → Nat) (s : State) (mi slot rtype : Nat)
    (body : Bytes) (h : RInv S s) : RInv S (onFragReply T S cfg slotFn s mi slot rtype body).1 := by
  have hok := onReply_ok T S.merge slotFn cfg.limit
  have h1 : ∀ r m' sig, s.msgs[mi]? = some r → onReply T S.merge slotFn cfg.limit r.m slot rtype body = (m', sig) →
      RInv S (s.updReq mi fun r => { r with m := m' }) := fun r m' sig hr hres =>
    rinv_keep (rkeep_updReq s mi _ fun r0 hr0 => by cases hr.symm.trans hr0; exact (hres ▸ hok r.m slot rtype body).adv) h
  refine onFragReply_cases T S cfg slotFn s mi slot rtype body (rinv_keep (rkeep_fail s _) h)
    (fun r m' sig w hr hres => rinv_keep (rkeep_fail _ w) (h1 r m' sig hr hres))
    (fun r m' sig hr hres _ => h1 r m' sig hr hres)
    (fun r m' hr hres => rinv_onMoved S cfg _ mi slot _ _ (h1 r m' _ hr hres) fun r0 hr0 => ?_)
    (fun r m' hr hres => rinv_keep (rkeep_of_eq _ _ (msgs_deliver _ _) (cs_deliver _ _).backends) (h1 r m' _ hr hres))
  cases (msgs_upd_same s mi _ r hr).symm.trans hr0
  exact Option.isSome_iff_exists.mp ((hres ▸ hok r.m slot rtype body).redirect rfl)

theorem rkeep_failStep (g : MMsg → Nat → MMsg → MMsg) (hg : ∀ m slot, Advances m (g m slot m)) (s : State) (f : FragRef) :
    RKeep s (failStep g s f) :=
  -- the request the update finds is the one that was looked up
  failStep_cases g s f (RKeep.refl s) fun _ _ r _ hr =>
    (rkeep_updReq _ _ _ fun r0 hr0 => by cases hr.symm.trans hr0; exact hg r.m _).trans (rkeep_flushClient _ _)

theorem rkeep_backendClose (S : Strs) (s : State) (b : Nat) : RKeep s (backendClose S s b) :=
  backendClose_cases S s b (RKeep.refl s) fun _ _ _ =>
    ((foldl_rel RKeep.refl RKeep.trans (rkeep_failStep (lostMsg S) (advances_failedMsg · · _)) _ s).trans
      (foldl_rel RKeep.refl RKeep.trans rkeep_dropTimeout _ _)).trans (rkeep_updBackend _ b _ fun _ => rfl)

theorem rkeep_expire (S : Strs) (s : State) (n : Nat) : RKeep s (expire S s n) := by
  rw [expire_eq]
  refine (foldl_rel RKeep.refl RKeep.trans (rkeep_failStep (timedOutMsg S) fun m _ => ?_) _ s).trans
    (rkeep_of_eq _ _ rfl rfl)
  refine (Advances.map m (fun x => if x.done then x else { x with err := S.errTimeout, done := true }) fun x => ?_).trans
    (.of_frags rfl)
  split
  · exact ⟨rfl, rfl, id⟩
  · exact ⟨rfl, rfl, fun _ => rfl⟩

theorem rinv_micro (T : Tables) (S : Strs) (cfg : Cfg) (slotFn : Bytes → Nat) (s s' : State)
    (hm : Micro T S cfg slotFn s s') (h : RInv S s) : RInv S s' := by
  have keep {s'} (hk : RKeep s s') : RInv S s' := rinv_keep hk h
  cases hm with
  | connect a => exact keep (rkeep_of_eq s { s with clients := _ } rfl rfl)
  | fail w => exact keep (rkeep_fail s w)
  | closeClient c => exact keep (rkeep_of_eq _ _ rfl rfl)
  | leftover c v => exact keep (rkeep_updClient s c _)
  | closing c => exact keep (rkeep_updClient s c _)
  | request c cm ch cl hc ho => exact keep (rkeep_onRequest T S cfg s c cm ch)
  | leftoverB b v => exact keep (rkeep_updBackend s b _ fun _ => rfl)
  | initDone b => exact keep (rkeep_updBackend s b _ fun _ => rfl)
  | pop b x f inQ' => exact keep (rkeep_pop s b f inQ')
  | reply b x mi slot inQ' rtype body =>
    exact rinv_onFragReply T S cfg slotFn _ mi slot rtype body (keep (rkeep_pop s b _ inQ'))
  | writeSignal b => exact keep (rkeep_writeSignal S cfg s b)
  | backendClose b => exact keep (rkeep_backendClose S s b)
  | clearTasks => exact keep (rkeep_of_eq s { s with tasks := _ } rfl rfl)
  | expire n => exact keep (rkeep_expire S s n)
  | poolRemove p => exact keep (rkeep_of_eq _ _ (same_poolRemove s p).2 (backends_poolRemove s p))

theorem rinv_run (T : Tables) (S : Strs) (cfg : Cfg) (slotFn : Bytes → Nat) (es : List Event) (s : State) (h : RInv S s) :
    RInv S (run T S cfg slotFn s es) :=
  (steps_run es s).inv (fun a b _ => rinv_micro T S cfg slotFn a b) h

theorem rinv_init (S : Strs) (cfg : Cfg) (pools : List (Bytes × Bool)) (table : List (Nat × Nat × RSet)) :
    RInv S (init S cfg pools table) :=
  init_ind S cfg pools table (fun _ _ => Nat.zero_le _) fun s p => rinv_keep (rkeep_poolGet S cfg s p)

end RcVerif.Lemmas.SimRedir
