import RcVerif.Model.Handover
import RcVerif.Lemmas.Cluster
/-
  Helper lemmas for the hand-over model: the pool loops and `setServer` as map updates, the inductive invariant
  of the reset-first order, the refinement of the goroutine's micro-steps to the atomic `onProbeReply`, and what
  settling reaches from a state that satisfies both.
-/
namespace RcVerif.Handover
open RcVerif RcVerif.Cluster

/-! ### the pool loops -/

theorem serverRole_none {servers : List Node} {a : Bytes} :
    serverRole servers a = none ↔ ∀ n ∈ servers, n.addr ≠ a := by
  simp only [serverRole, Option.map_eq_none_iff, List.find?_eq_none, decide_eq_true_eq, ne_eq]

theorem poolRole_none {pools : List (Bytes × Bool)} {a : Bytes} :
    poolRole pools a = none ↔ ∀ p ∈ pools, p.1 ≠ a := by
  simp only [poolRole, Option.map_eq_none_iff, List.find?_eq_none, decide_eq_true_eq, ne_eq]

theorem poolRole_remove (servers : List Node) (pools : List (Bytes × Bool)) (a : Bytes)
    (h : serverRole servers a = none) : poolRole (removePools servers pools) a = none := by
  rw [serverRole_none] at h
  rw [poolRole_none]
  intro p hp hpa
  obtain ⟨n, hn, hna⟩ := List.any_eq_true.mp (List.mem_filter.mp hp).2
  exact h n hn ((of_decide_eq_true hna).trans hpa)

/-- one iteration of the add loop -/
def upd (n : Node) (pools : List (Bytes × Bool)) : List (Bytes × Bool) :=
  if pools.any (fun p => p.1 = n.addr) then pools.map (fun p => if p.1 = n.addr then (p.1, n.isSlave) else p)
  else pools ++ [(n.addr, n.isSlave)]

theorem addPools_cons (n : Node) (rest : List Node) (pools : List (Bytes × Bool)) :
    addPools (n :: rest) pools = addPools rest (upd n pools) := rfl

theorem poolRole_upd (n : Node) (pools : List (Bytes × Bool)) (a : Bytes) :
    poolRole (upd n pools) a = if n.addr = a then some n.isSlave else poolRole pools a := by
  unfold upd poolRole
  split
  · next hany =>
    -- re-roling keeps the keys, so the same entry is found
    have hkey : ((fun p : Bytes × Bool => decide (p.1 = a)) ∘ fun p => if p.1 = n.addr then (p.1, n.isSlave) else p)
        = fun p => decide (p.1 = a) := funext fun p => by simp only [Function.comp]; split <;> rfl
    rw [List.find?_map, hkey]
    cases hf : pools.find? (fun p => decide (p.1 = a)) with
    | none =>
      rw [if_neg]; rfl
      rintro rfl
      obtain ⟨p, hp, hpa⟩ := List.any_eq_true.mp hany
      exact List.find?_eq_none.mp hf p hp hpa
    | some q =>
      have hq : q.1 = a := by simpa using List.find?_some hf
      subst hq
      by_cases h : q.1 = n.addr <;> simp [h, Eq.comm]
  · next hany =>
    rw [List.find?_append]
    by_cases ha : n.addr = a
    · subst ha
      have : pools.find? (fun p => decide (p.1 = n.addr)) = none :=
        List.find?_eq_none.mpr fun p hp h => hany (List.any_eq_true.mpr ⟨p, hp, h⟩)
      simp [this]
    · simp [ha]

def AddrNodup (servers : List Node) : Prop := (servers.map (·.addr)).Nodup

theorem serverRole_cons (n : Node) (rest : List Node) (a : Bytes) :
    serverRole (n :: rest) a = if n.addr = a then some n.isSlave else serverRole rest a := by
  unfold serverRole; rw [List.find?_cons]
  by_cases h : n.addr = a <;> simp [h]

/-- the add loop over a server map (distinct addresses): a role per server, everything else as before -/
theorem poolRole_add (servers : List Node) (hnd : AddrNodup servers) (pools : List (Bytes × Bool)) (a : Bytes) :
    poolRole (addPools servers pools) a =
      match serverRole servers a with
      | some r => some r
      | none => poolRole pools a := by
  induction servers generalizing pools with
  | nil => rfl
  | cons n rest ih =>
    have hnd' := List.nodup_cons.mp hnd
    rw [addPools_cons, ih hnd'.2, poolRole_upd, serverRole_cons]
    by_cases ha : n.addr = a
    · -- a later entry for the same address would win in the loop; there is none
      subst ha
      rw [if_pos rfl, if_pos rfl, serverRole_none.mpr (fun m hm hma => hnd'.1 (List.mem_map.mpr ⟨m, hm, hma⟩))]
    · rw [if_neg ha, if_neg ha]

theorem serverRole_mem (ns : List Node) (h : AddrNodup ns) (n : Node) (hn : n ∈ ns) :
    serverRole ns n.addr = some n.isSlave := by
  induction ns with
  | nil => cases hn
  | cons m rest ih =>
    have h' := List.nodup_cons.mp h
    rw [serverRole_cons]
    rcases List.mem_cons.mp hn with rfl | hr
    · rw [if_pos rfl]
    · rw [if_neg (fun hm => h'.1 (List.mem_map.mpr ⟨n, hr, hm.symm⟩)), ih h'.2 hr]

/-! ### `setServer` -/

/-- one `hashmap.Insert` of `setServer` -/
def ins (acc : List Node) (n : Node) : List Node := if acc.any (·.addr = n.addr) then acc else acc ++ [n]

theorem addrNodup_concat {acc : List Node} {n : Node} :
    AddrNodup (acc ++ [n]) ↔ AddrNodup acc ∧ acc.any (·.addr = n.addr) = false := by
  show (List.map (·.addr) (acc ++ [n])).Nodup ↔ _
  rw [List.map_append, List.map_singleton, (List.perm_append_singleton _ _).nodup_iff, List.nodup_cons, List.any_eq_false,
    And.comm]
  simp only [List.mem_map, not_exists, not_and, decide_eq_true_eq]
  exact Iff.rfl

theorem ins_nodup {acc : List Node} (n : Node) (h : AddrNodup acc) : AddrNodup (ins acc n) := by
  unfold ins; split
  · exact h
  · next hany => exact addrNodup_concat.mpr ⟨h, Bool.not_eq_true _ ▸ hany⟩

theorem ins_new {acc : List Node} {n : Node} (h : AddrNodup (acc ++ [n])) : ins acc n = acc ++ [n] :=
  if_neg (by rw [(addrNodup_concat.mp h).2]; exact Bool.false_ne_true)

theorem setServers_nodup (ns : List Node) : AddrNodup (setServers ns) :=
  List.foldlRecOn ns ins (motive := AddrNodup) List.nodup_nil (fun _ h n _ => ins_nodup n h)

theorem setServers_of_nodup (ns : List Node) (h : AddrNodup ns) : setServers ns = ns := by
  suffices hgen : ∀ acc rest, AddrNodup (acc ++ rest) → rest.foldl ins acc = acc ++ rest from hgen [] ns h
  intro acc rest
  induction rest generalizing acc with
  | nil => exact fun _ => (List.append_nil acc).symm
  | cons n rest ih =>
    intro hnd
    rw [List.append_cons] at hnd ⊢
    rw [List.foldl_cons, ins_new (List.Nodup.sublist ((List.sublist_append_left _ rest).map _) hnd), ih _ hnd]

/-! ### the invariant of the reset-first order -/

/-- how far the running pass has got, given that nothing was published since it took the flag down -/
def Progress (s : MState) : Prop :=
  match s.tpc with
  | .idle => Clean s
  | .remove => True
  | .add => ∀ a, serverRole s.r.servers a = none → poolRole s.pools a = none
  | .table => ∀ a, poolRole s.pools a = serverRole s.r.servers a
  | .reset => False

/-- the goroutine's own view of the server map is a map (distinct keys) whenever it is not inside `setServer` -/
def GInv (s : MState) : Prop :=
  match s.gpc with
  | .clear _ | .fill _ => True
  | _ => AddrNodup s.r.servers

structure Inv (s : MState) : Prop where
  noReset : s.tpc ≠ .reset
  g : GInv s
  /-- flag down and the goroutine idle: the pass (or, between passes, the loop's state) is consistent -/
  prog : s.r.changed = false → s.gpc = .idle → Progress s

theorem inv_init : Inv {} := by
  refine ⟨by simp, by simp [GInv, AddrNodup], ?_⟩
  intro _ _
  simp [Progress, Clean, poolRole, serverRole]

/-- while the goroutine is at work, or the flag is up, the invariant asks nothing of the event loop's pass -/
theorem inv_busy {s : MState} (hr : s.tpc ≠ .reset) (hg : GInv s) (hb : s.gpc ≠ .idle ∨ s.r.changed = true) : Inv s :=
  ⟨hr, hg, fun hc hi => by rcases hb with h | h; exact absurd hi h; rw [hc] at h; cases h⟩

variable (nslots : Nat) (info : Bytes → Option Info)

/-- the goroutine takes a reply: the same decision as the atomic `onProbeReply`, carried out as far as the
    signature; the publication itself is left to the micro-steps -/
theorem gReceive_eq (s : MState) (msg : Bytes) (hg : s.gpc = .idle) :
    gReceive nslots info s msg =
      match verdict nslots info s.r msg with
      | none => { s with log := s.log ++ [msg] }
      | some ns => { s with log := s.log ++ [msg], r := { s.r with lastNames := sortBytes (ns.map sigOf) }, gpc := .clear ns } := by
  unfold gReceive verdict
  rw [if_neg (fun h => h hg)]; dsimp only
  by_cases ha : (!s.r.alive) = true
  · rw [if_pos ha, if_pos ha]
  rw [if_neg ha, if_neg ha]
  cases probeText msg with
  | none => rfl
  | some text =>
    dsimp only
    cases parseText nslots (fun a => s.r.servers.any (·.addr = a)) info text with
    | none => rfl
    | some ns =>
      dsimp only
      by_cases hc : ns.length ≠ s.r.servers.length ∨ sortBytes (ns.map sigOf) ≠ s.r.lastNames
      · rw [if_pos hc, if_pos hc]
      · rw [if_neg hc, if_neg hc, Decidable.not_not.mp (fun h => hc (Or.inr h))]

/-- a reply is taken from the channel only between two publications -/
theorem gReceive_busy (s : MState) (msg : Bytes) (hg : s.gpc ≠ .idle) : gReceive nslots info s msg = s := by
  unfold gReceive; rw [if_pos hg]

theorem inv_gReceive (s : MState) (msg : Bytes) (h : Inv s) : Inv (gReceive nslots info s msg) := by
  by_cases hg : s.gpc = .idle
  · rw [gReceive_eq nslots info s msg hg]
    cases verdict nslots info s.r msg with
    | none => exact ⟨h.noReset, h.g, h.prog⟩    -- `Inv` does not read the log
    | some ns => exact inv_busy h.noReset trivial (Or.inl (by simp))
  · rw [gReceive_busy nslots info s msg hg]; exact h

theorem inv_gStep (s : MState) (h : Inv s) : Inv (gStep s) := by
  have hg := h.g
  unfold GInv at hg
  unfold gStep
  split
  · exact h
  · exact inv_busy h.noReset trivial (Or.inl (by simp))
  · exact inv_busy h.noReset (setServers_nodup _) (Or.inl (by simp))
  · next hpc => rw [hpc] at hg; exact inv_busy h.noReset hg (Or.inl (by simp))
  · next hpc => rw [hpc] at hg; exact inv_busy h.noReset hg (Or.inr rfl)

theorem inv_tTick (s : MState) (h : Inv s) : Inv (tTick true s) := by
  unfold tTick
  split
  · exact ⟨by simp, h.g, fun _ _ => trivial⟩    -- `GInv` reads `gpc` and `r.servers` only
  · exact h

theorem inv_tStep (s : MState) (h : Inv s) : Inv (tStep true s) := by
  unfold tStep
  split
  · exact h
  · exact ⟨by simp, h.g, fun _ _ a ha => poolRole_remove _ _ a ha⟩
  · next hpc =>
    refine ⟨by simp, h.g, fun hc hi a => ?_⟩
    have hp := h.prog hc hi
    have hnd := h.g
    simp only [Progress, hpc] at hp
    simp only [GInv, show s.gpc = .idle from hi] at hnd
    show poolRole (addPools s.r.servers s.pools) a = _
    rw [poolRole_add _ hnd]
    cases hs : serverRole s.r.servers a with
    | none => exact hp a hs
    | some r => rfl
  · next hpc =>
    refine ⟨by simp, h.g, fun hc hi => ?_⟩
    have hp := h.prog hc hi
    simp only [Progress, hpc] at hp
    exact ⟨hp, rfl⟩
  · next hpc => exact absurd hpc h.noReset

theorem inv_step (s : MState) (e : Ev) (h : Inv s) : Inv (step nslots info true s e) := by
  cases e with
  | deliver msg => exact inv_gReceive nslots info s msg h
  | g => exact inv_gStep s h
  | tick => exact inv_tTick s h
  | t => exact inv_tStep s h
  | gTorn servers sets =>
    -- only while the goroutine is inside `setServer` / `setReplicaset`
    dsimp only [step]
    split
    · next hpc => exact inv_busy h.noReset (by simp only [GInv, hpc]) (Or.inl (by simp [hpc]))
    · next hpc => exact inv_busy h.noReset (by simp only [GInv, hpc]) (Or.inl (by simp [hpc]))
    · next hpc => exact inv_busy h.noReset h.g (Or.inl (by simp [hpc]))
    · exact h
  | tTorn pools table =>
    -- only while the goroutine is at work
    dsimp only [step]
    split
    · exact h
    · next hg =>
      split
      · exact h
      · exact h
      · next hpc => exact inv_busy (by simp [tNext, hpc]) h.g (Or.inl hg)
      · next hpc => exact inv_busy (by simp [tNext, hpc]) h.g (Or.inl hg)
      · next hpc => exact inv_busy (by simp [tNext, hpc]) h.g (Or.inl hg)

theorem inv_run (evs : List Ev) (s : MState) (h : Inv s) : Inv (run nslots info true s evs) :=
  List.foldlRecOn evs _ h (fun s h e _ => inv_step nslots info s e h)

/-! ### the goroutine's micro-steps refine the atomic `onProbeReply` -/

/-- equality on what the goroutine publishes and remembers (everything but the flag, which the event loop resets) -/
def PubEq (r a : RState) : Prop :=
  r.servers = a.servers ∧ r.sets = a.sets ∧ r.lastNames = a.lastNames ∧ r.alive = a.alive

/-- the atomic model run over the replies taken from the channel so far -/
def atomic (log : List Bytes) : RState := log.foldl (onProbeReply nslots info) {}

def RInv (s : MState) : Prop :=
  let a := atomic nslots info s.log
  match s.gpc with
  | .idle | .flag => PubEq s.r a
  | .clear ns | .fill ns =>
    s.r.lastNames = a.lastNames ∧ s.r.alive = a.alive ∧ a.servers = setServers ns ∧ a.sets = setReplicasets ns
  | .sets ns =>
    s.r.lastNames = a.lastNames ∧ s.r.alive = a.alive ∧ a.servers = setServers ns ∧ a.sets = setReplicasets ns ∧
    s.r.servers = a.servers

theorem rinv_init : RInv nslots info {} := by
  simp [RInv, atomic, PubEq]

theorem RInv.idle {s : MState} (h : RInv nslots info s) (hg : s.gpc = .idle) :
    PubEq s.r (atomic nslots info s.log) := by
  rwa [RInv, hg] at h

theorem atomic_snoc (log : List Bytes) (msg : Bytes) :
    atomic nslots info (log ++ [msg]) = onProbeReply nslots info (atomic nslots info log) msg := by
  simp [atomic, List.foldl_append]

theorem verdict_congr {r a : RState} (h : PubEq r a) (msg : Bytes) :
    verdict nslots info r msg = verdict nslots info a msg := by
  unfold verdict; rw [h.1, h.2.2.1, h.2.2.2]

theorem rinv_gReceive (s : MState) (msg : Bytes) (h : RInv nslots info s) : RInv nslots info (gReceive nslots info s msg) := by
  by_cases hg : s.gpc = .idle
  · have hp := h.idle nslots info hg
    -- both take the same decision, the atomic model on what the goroutine has published so far
    have hat := atomic_snoc nslots info s.log msg
    rw [onProbeReply_eq, ← verdict_congr nslots info hp] at hat
    rw [gReceive_eq nslots info s msg hg]
    cases hv : verdict nslots info s.r msg with
    | none => rw [hv] at hat; simp only [RInv, hg, hat]; exact hp
    | some ns => rw [hv] at hat; simp only [RInv, hat]; exact ⟨rfl, hp.2.2.2, rfl, rfl⟩
  · rw [gReceive_busy nslots info s msg hg]; exact h

theorem rinv_gStep (s : MState) (h : RInv nslots info s) : RInv nslots info (gStep s) := by
  unfold gStep
  split
  · exact h
  · next ns hpc => simp only [RInv, hpc] at h ⊢; exact h
  · next ns hpc => simp only [RInv, hpc] at h ⊢; exact ⟨h.1, h.2.1, h.2.2.1, h.2.2.2, h.2.2.1.symm⟩
  · next ns hpc => simp only [RInv, hpc, PubEq] at h ⊢; exact ⟨h.2.2.2.2, h.2.2.2.1.symm, h.1, h.2.1⟩
  · next hpc => simp only [RInv, hpc, PubEq] at h ⊢; exact h

/-- what the refinement invariant reads: the goroutine's side of the state, the flag apart -/
def gview (s : MState) : GPc × List Bytes × List Node × List (Node × List Node) × List Bytes × Bool :=
  (s.gpc, s.log, s.r.servers, s.r.sets, s.r.lastNames, s.r.alive)

theorem RInv.of_gview {s s' : MState} (h : RInv nslots info s) (e : gview s' = gview s) : RInv nslots info s' := by
  simp only [gview, Prod.mk.injEq] at e
  obtain ⟨e1, e2, e3, e4, e5, e6⟩ := e
  unfold RInv PubEq at h ⊢
  rw [e1, e2, e3, e4, e5, e6]; exact h

theorem gview_tTick (rf : Bool) (s : MState) : gview (tTick rf s) = gview s := by
  unfold tTick; split
  · split <;> rfl
  · rfl

theorem gview_tStep (rf : Bool) (s : MState) : gview (tStep rf s) = gview s := by
  unfold tStep; split <;> rfl

theorem rinv_step (rf : Bool) (s : MState) (e : Ev) (h : RInv nslots info s) : RInv nslots info (step nslots info rf s e) := by
  cases e with
  | deliver msg => exact rinv_gReceive nslots info s msg h
  | g => exact rinv_gStep nslots info s h
  | tick => exact h.of_gview _ _ (gview_tTick rf s)
  | t => exact h.of_gview _ _ (gview_tStep rf s)
  | gTorn servers sets =>
    -- a torn value is visible only where the invariant does not read the field being written
    dsimp only [step]
    split
    · next hpc => simp only [RInv, hpc] at h ⊢; exact h
    · next hpc => simp only [RInv, hpc] at h ⊢; exact h
    · next hpc => simp only [RInv, hpc] at h ⊢; exact h
    · exact h
  | tTorn pools table =>
    refine h.of_gview _ _ ?_
    dsimp only [step]
    split
    · rfl
    · split <;> rfl

theorem rinv_run (rf : Bool) (evs : List Ev) (s : MState) (h : RInv nslots info s) :
    RInv nslots info (run nslots info rf s evs) :=
  List.foldlRecOn evs _ h (fun s h e _ => rinv_step nslots info rf s e h)

/-! ### settling -/

theorem Inv.clean {s : MState} (h : Inv s) (hg : s.gpc = .idle) (ht : s.tpc = .idle) (hc : s.r.changed = false) :
    Clean s := by
  have := h.prog hc hg
  rwa [Progress, ht] at this

/-- the goroutine is back at its channel after at most four further steps -/
theorem finishG_spec (s : MState) : (finishG s).gpc = .idle ∧ (finishG s).log = s.log := by
  unfold finishG
  cases hg : s.gpc <;> simp [gStep, hg]

/-- in the reset-first order a pass is over after at most three further steps, none of which touches the flag -/
theorem finishT_spec (s : MState) (h : s.tpc ≠ .reset) :
    (finishT true s).tpc = .idle ∧ (finishT true s).r.changed = s.r.changed := by
  unfold finishT
  cases ht : s.tpc <;> simp_all [tStep]

/-- a tick of the idle event loop leaves the flag down -/
theorem tTick_changed (s : MState) (h : s.tpc = .idle) : (tTick true s).r.changed = false := by
  unfold tTick; split
  · rfl
  · next hno => simpa [h] using hno

/-- settling is the goroutine's business as far as its side of the state goes -/
theorem gview_settle (rf : Bool) (s : MState) : gview (settle rf s) = gview (finishG s) := by
  simp only [settle, finishT, gview_tStep, gview_tTick]

theorem inv_finishG (s : MState) (h : Inv s) : Inv (finishG s) :=
  inv_gStep _ (inv_gStep _ (inv_gStep _ (inv_gStep _ h)))

theorem inv_finishT (s : MState) (h : Inv s) : Inv (finishT true s) :=
  inv_tStep _ (inv_tStep _ (inv_tStep _ (inv_tStep _ h)))

theorem rinv_finishG (s : MState) (h : RInv nslots info s) : RInv nslots info (finishG s) :=
  rinv_gStep _ _ _ (rinv_gStep _ _ _ (rinv_gStep _ _ _ (rinv_gStep _ _ _ h)))

theorem rinv_settle (rf : Bool) (s : MState) (h : RInv nslots info s) : RInv nslots info (settle rf s) :=
  (rinv_finishG nslots info s h).of_gview nslots info (gview_settle rf s)

theorem settles_of_inv (s : MState) (hinv : Inv s) (hr : RInv nslots info s) :
    (settle true s).gpc = .idle ∧ (settle true s).tpc = .idle ∧ (settle true s).r.changed = false ∧
    Clean (settle true s) ∧ (settle true s).log = s.log ∧
    PubEq (settle true s).r (atomic nslots info s.log) := by
  have h1 : Inv (finishG s) := inv_finishG s hinv
  have h3 : Inv (tTick true (finishT true (finishG s))) := inv_tTick _ (inv_finishT _ h1)
  have hv := gview_settle true s
  simp only [gview, Prod.mk.injEq] at hv
  have hgs : (settle true s).gpc = .idle := hv.1.trans (finishG_spec s).1
  have hts := (finishT_spec _ h3.noReset).1
  have hcs : (settle true s).r.changed = false :=
    (finishT_spec _ h3.noReset).2.trans (tTick_changed _ (finishT_spec _ h1.noReset).1)
  have hlog : (settle true s).log = s.log := hv.2.1.trans (finishG_spec s).2
  exact ⟨hgs, hts, hcs, (inv_finishT _ h3).clean hgs hts hcs, hlog, hlog ▸ (rinv_settle nslots info true s hr).idle nslots info hgs⟩

end RcVerif.Handover
