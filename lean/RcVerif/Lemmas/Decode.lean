import RcVerif.Lemmas.Frame
import RcVerif.Spec.Resp
/-
  The characterisation of the client decoder: it accepts exactly the canonical
  encodings, consumes exactly one of them whatever follows, hands the handler
  `build …`, is "incomplete" on proper prefixes and never reaches a panic;
  and what `build` makes of a request, one equation per kind of command.
-/
namespace RcVerif.Lemmas.Decode
open RcVerif RcVerif.Resp RcVerif.CDecode RcVerif.Commands RcVerif.Lemmas.Decimal RcVerif.Lemmas.Frame

theorem bulk_eq_spec (b : Bytes) : bulk b = Spec.encBulk b := rfl

theorem bulks_eq_spec (bs : List Bytes) : bulks bs = (bs.map Spec.encBulk).flatten := rfl

theorem encodeCmd_eq_spec (name : Bytes) (args : List Bytes) :
    encodeCmd name args = Spec.encRequest (name :: args) := by
  simp [encodeCmd, Spec.encRequest, bulk_eq_spec, bulks_eq_spec]

theorem encodeCmd_length_pos (name : Bytes) (args : List Bytes) : 0 < (encodeCmd name args).length := by
  simp [encodeCmd]

theorem toLower_length (b : Bytes) : (toLower b).length = b.length := by simp [toLower]

/-- request size accepted by the decoder's 18-digit length fields -/
structure SmallReq (name : Bytes) (args : List Bytes) : Prop where
  nameS : Small name.length
  argsS : ∀ a ∈ args, Small a.length
  countS : Small (args.length + 1)

/-- a request encoding is the command name between a header that holds only the name's length and the
    encoded arguments -/
theorem encodeCmd_name (name : Bytes) (args : List Bytes) :
    ∃ H : Bytes, ∀ nm : Bytes, nm.length = name.length →
      encodeCmd nm args = H ++ nm ++ 13 :: 10 :: bulks args :=
  ⟨[42] ++ itoa (args.length + 1) ++ [13, 10] ++ ([36] ++ itoa name.length ++ [13, 10]), fun nm h => by
    simp only [encodeCmd, bulk, h, List.append_assoc, List.cons_append, List.nil_append]⟩

/-- the bytes the decoder copies into a single-key fragment: the request with
    only the command name lower-cased -/
theorem raw_eq (name : Bytes) (args : List Bytes) (t : Bytes) :
    let view := encodeCmd name args ++ t
    let a := view.length - (bulks args ++ t).length - 2 - name.length
    view.take a ++ toLower name ++ (view.take (encodeCmd name args).length).drop (a + name.length)
      = encodeCmd (toLower name) args := by
  obtain ⟨H, henc⟩ := encodeCmd_name name args
  rw [henc _ (toLower_length name), henc name rfl]
  generalize hR : 13 :: 10 :: bulks args = R
  intro view a
  have hlen : view.length = H.length + name.length + 2 + (bulks args ++ t).length := by
    simp only [view, ← hR, List.length_append, List.length_cons]; omega
  have ha : a = H.length := by
    show view.length - (bulks args ++ t).length - 2 - name.length = _
    rw [hlen, Nat.add_sub_cancel, Nat.add_sub_cancel, Nat.add_sub_cancel]
  rw [ha, List.take_left' rfl, ← List.length_append, List.drop_left' rfl]
  show (H ++ name ++ R ++ t).take H.length ++ _ ++ _ = _
  rw [List.append_assoc H, List.append_assoc H, List.take_left' rfl]

theorem decode_encode (T : Tables) (slot : Bytes → Nat) (limit : Nat)
    (name : Bytes) (args : List Bytes) (t : Bytes) (hs : SmallReq name args) :
    decode T slot limit (encodeCmd name args ++ t) =
      .ok (build T slot limit name args (encodeCmd (toLower name) args) (encodeCmd name args).length)
          (encodeCmd name args).length := by
  unfold decode
  rw [frame_encode name args t hs.nameS hs.argsS hs.countS]
  simp only
  rw [show (encodeCmd name args ++ t).length - t.length = (encodeCmd name args).length by simp]
  have hraw := raw_eq name args t
  simp only at hraw
  rw [hraw]

/-- `decode_encode` in the specification's words -/
theorem decode_encRequest (T : Tables) (slot : Bytes → Nat) (limit : Nat)
    (name : Bytes) (args : List Bytes) (t : Bytes) (hs : SmallReq name args) :
    decode T slot limit (Spec.encRequest (name :: args) ++ t) =
      .ok (build T slot limit name args (Spec.encRequest (toLower name :: args))
            (Spec.encRequest (name :: args)).length)
          (Spec.encRequest (name :: args)).length := by
  rw [← encodeCmd_eq_spec, ← encodeCmd_eq_spec]
  exact decode_encode T slot limit name args t hs

theorem decode_ok (T : Tables) (slot : Bytes → Nat) (limit : Nat) (view : Bytes) (m : CMsg) (n : Nat)
    (h : decode T slot limit view = .ok m n) :
    ∃ name args t, view = encodeCmd name args ++ t ∧ SmallReq name args ∧
      n = (encodeCmd name args).length ∧
      m = build T slot limit name args (encodeCmd (toLower name) args) n := by
  rcases frame_cases view with hf | hf | ⟨name, args, r, -, hv, h1, h2, h3⟩
  · rw [decode, hf] at h; cases h
  · rw [decode, hf] at h; cases h
  · have hs : SmallReq name args := ⟨h1, h2, h3⟩
    rw [hv, decode_encode T slot limit name args r hs] at h
    cases h
    exact ⟨name, args, r, hv, hs, rfl, rfl⟩

theorem decode_prefix (T : Tables) (slot : Bytes → Nat) (limit : Nat)
    (name : Bytes) (args : List Bytes) (p s : Bytes) (hsm : SmallReq name args)
    (hs : s ≠ []) (h : p ++ s = encodeCmd name args) :
    decode T slot limit p = .incomplete := by
  unfold decode
  rw [frame_prefix name args p s hsm.nameS hsm.argsS hsm.countS hs h]

theorem decode_no_panic (T : Tables) (slot : Bytes → Nat) (limit : Nat) (view : Bytes) :
    decode T slot limit view ≠ .panic := by
  rcases frame_cases view with hf | hf | ⟨name, args, r, hf, -⟩ <;> rw [decode, hf] <;> nofun

theorem ite_type {c : Prop} [Decidable c] (t t' : Nat) (k ks fr g) :
    (if c then ({ type := t, key := k, keys := ks, frags := fr, groups := g } : CMsg)
      else { type := t', key := k, keys := ks, frags := fr, groups := g }) =
      { type := if c then t else t', key := k, keys := ks, frags := fr, groups := g } := by
  split <;> rfl

/- The request object: `build` decides by the request type `ty` between four shapes. One equation for each;
   the size limit shows in the type only. -/
section build
variable (T : Tables) (slot : Bytes → Nat) (limit : Nat) (name : Bytes) (args : List Bytes) (raw : Bytes)
  (n : Nat) {ty : Nat}

/-- MGET / DEL: one command of the same kind per slot -/
theorem build_split (hty : transform2Type T name args.length = ty) (h : ty = T.cMget ∨ ty = T.cDel) :
    build T slot limit name args raw n =
      { type := if n > limit then T.cTooLarge else ty, key := [], keys := args,
        groups := groupBySlot slot args,
        frags := (groupBySlot slot args).map fun p =>
          (p.1, encodeCmd (if ty = T.cMget then nameMget else nameDel) p.2) } := by
  subst hty
  unfold build
  dsimp only
  rw [if_pos h, ite_type]

/-- MSET: one MSET per slot, over the key/value pairs -/
theorem build_mset (hty : transform2Type T name args.length = ty) (h1 : ¬ (ty = T.cMget ∨ ty = T.cDel))
    (h2 : ty = T.cMset) :
    build T slot limit name args raw n =
      { type := if n > limit then T.cTooLarge else ty, key := [], keys := (pairs args).map (·.1),
        groups := (groupBySlot (fun p : Bytes × Bytes => slot p.1) (pairs args)).map fun p => (p.1, unpairs p.2),
        frags := (groupBySlot (fun p : Bytes × Bytes => slot p.1) (pairs args)).map fun p =>
          (p.1, encodeCmd nameMset (unpairs p.2)) } := by
  subst hty
  unfold build
  dsimp only
  rw [if_neg h1, if_pos h2, ite_type]

/-- EVAL / EVALSHA: the request as it came, filed under the slot of its third argument -/
theorem build_script (hty : transform2Type T name args.length = ty) (h1 : ¬ (ty = T.cMget ∨ ty = T.cDel))
    (h2 : ty ≠ T.cMset) (h3 : ty = T.cEval ∨ ty = T.cEvalsha) :
    build T slot limit name args raw n =
      { type := if n > limit then T.cTooLarge else if args.length < 3 then T.cWrongArgs else ty,
        key := args[2]?.getD [], keys := [], groups := [], frags := [((args[2]?.map slot).getD 0, raw)] } := by
  subst hty
  unfold build
  dsimp only
  rw [if_neg h1, if_neg h2, if_pos h3, ite_type]
  rcases args with _ | ⟨_, _ | ⟨_, _ | ⟨_, _⟩⟩⟩ <;> rfl

/-- every other command: the request as it came, filed under the slot of its first argument -/
theorem build_default (hty : transform2Type T name args.length = ty) (h1 : ¬ (ty = T.cMget ∨ ty = T.cDel))
    (h2 : ty ≠ T.cMset) (h3 : ¬ (ty = T.cEval ∨ ty = T.cEvalsha)) :
    build T slot limit name args raw n =
      { type := if n > limit then T.cTooLarge else ty,
        key := args[0]?.getD [], keys := [], groups := [], frags := [((args[0]?.map slot).getD 0, raw)] } := by
  subst hty
  unfold build
  dsimp only
  rw [if_neg h1, if_neg h2, if_neg h3, ite_type]
  cases args <;> rfl

theorem build_frags :
    ∀ p ∈ (build T slot limit name args raw n).frags, p.2 = raw ∨ ∃ nm ks, p.2 = encodeCmd nm ks := by
  intro p hp
  obtain ⟨ty, hty⟩ : ∃ ty, transform2Type T name args.length = ty := ⟨_, rfl⟩
  by_cases h1 : ty = T.cMget ∨ ty = T.cDel
  · rw [build_split T slot limit name args raw n hty h1] at hp
    obtain ⟨q, -, rfl⟩ := List.mem_map.mp hp
    exact .inr ⟨_, _, rfl⟩
  by_cases h2 : ty = T.cMset
  · rw [build_mset T slot limit name args raw n hty h1 h2] at hp
    obtain ⟨q, -, rfl⟩ := List.mem_map.mp hp
    exact .inr ⟨_, _, rfl⟩
  by_cases h3 : ty = T.cEval ∨ ty = T.cEvalsha
  · rw [build_script T slot limit name args raw n hty h1 h2 h3] at hp
    exact .inl (by rw [List.mem_singleton.mp hp])
  · rw [build_default T slot limit name args raw n hty h1 h2 h3] at hp
    exact .inl (by rw [List.mem_singleton.mp hp])

/-- the type the decoder assigns, as a function of name, argument count and size; `hd`: the script commands
    are none of the split ones (`Tables.script_not_split` for the Go tables) -/
theorem build_type (hd : ∀ c, c = T.cEval ∨ c = T.cEvalsha → ¬ (c = T.cMget ∨ c = T.cDel) ∧ c ≠ T.cMset) :
    (build T slot limit name args raw n).type =
      if n > limit then T.cTooLarge
      else if (transform2Type T name args.length = T.cEval ∨ transform2Type T name args.length = T.cEvalsha)
          ∧ args.length < 3
        then T.cWrongArgs
        else transform2Type T name args.length := by
  generalize hty : transform2Type T name args.length = ty
  by_cases h3 : ty = T.cEval ∨ ty = T.cEvalsha
  · rw [build_script T slot limit name args raw n hty (hd _ h3).1 (hd _ h3).2 h3]
    simp only [h3, true_and]
  simp only [h3, false_and, if_false]
  by_cases h1 : ty = T.cMget ∨ ty = T.cDel
  · rw [build_split T slot limit name args raw n hty h1]
  by_cases h2 : ty = T.cMset
  · rw [build_mset T slot limit name args raw n hty h1 h2]
  · rw [build_default T slot limit name args raw n hty h1 h2 h3]

end build

end RcVerif.Lemmas.Decode
