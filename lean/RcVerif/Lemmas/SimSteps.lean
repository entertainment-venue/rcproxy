import RcVerif.Lemmas.SimBasic
/-
  The event handlers of the machine as sequences of micro-steps. Every loop of the model (`creadLoop`, `sreadLoop`,
  the task queue) is walked here, once: `steps_step` says that an event takes the machine through a sequence of
  `Micro` steps, each starting in an unflagged state. An invariant or a frame relation is then checked per micro-step
  (`Steps.inv`).
-/
namespace RcVerif.Lemmas.SimSteps
open RcVerif RcVerif.Sim RcVerif.Merge

section
variable (T : Tables) (S : Strs) (cfg : Cfg) (slotFn : Bytes → Nat)

inductive Micro : State → State → Prop
  | connect (s : State) (admitted : Bool) : Micro s { s with clients := s.clients ++ [{ opened := admitted }] }
  | fail (s : State) (w : String) : Micro s (s.fail w)
  | closeClient (s : State) (c : Nat) : Micro s (closeClient s c)
  | leftover (s : State) (c : Nat) (v : Bytes) : Micro s (s.updClient c (fun cl => { cl with leftover := v }))
  | closing (s : State) (c : Nat) : Micro s (s.updClient c (fun cl => { cl with closing := true, leftover := [] }))
  | request (s : State) (c : Nat) (cm : CDecode.CMsg) (ch : ReqChoice) (cl : Client) (hc : s.clients[c]? = some cl)
      (ho : cl.opened = true) : Micro s (onRequest T S cfg s c cm ch).1
  | leftoverB (s : State) (b : Nat) (v : Bytes) : Micro s (s.updBackend b (fun x => { x with leftover := v }))
  | initDone (s : State) (b : Nat) : Micro s (s.updBackend b (fun x => { x with initializing := false }))
  | pop (s : State) (b : Nat) (x : Backend) (f : FragRef) (inQ' : List FragRef) (hx : s.backends[b]? = some x)
      (hq : x.inQ = f :: inQ') (hf : ∀ mi slot, f ≠ .frag mi slot) :
      Micro s (dropTimeout (s.updBackend b (fun x => { x with inQ := inQ' })) f)
  | reply (s : State) (b : Nat) (x : Backend) (mi slot : Nat) (inQ' : List FragRef) (rtype : Nat) (body : Bytes)
      (hx : s.backends[b]? = some x) (hq : x.inQ = .frag mi slot :: inQ') :
      Micro s (onFragReply T S cfg slotFn (dropTimeout (s.updBackend b (fun x => { x with inQ := inQ' })) (.frag mi slot))
        mi slot rtype body).1
  | writeSignal (s : State) (b : Nat) : Micro s (writeSignal S cfg s b)
  | backendClose (s : State) (b : Nat) : Micro s (backendClose S s b)
  | clearTasks (s : State) : Micro s { s with tasks := [] }
  | expire (s : State) (n : Nat) : Micro s (expire S s n)
  | poolRemove (s : State) (p : Nat) : Micro s (poolRemove s p)

inductive Steps : State → State → Prop
  | refl (s : State) : Steps s s
  | head {s s1 s2 : State} : s.flag = none → Micro T S cfg slotFn s s1 → Steps s1 s2 → Steps s s2

variable {T S cfg slotFn}

theorem Steps.one {s s' : State} (hf : s.flag = none) (h : Micro T S cfg slotFn s s') : Steps T S cfg slotFn s s' :=
  .head hf h (.refl s')

theorem Steps.trans {a b c : State} (h1 : Steps T S cfg slotFn a b) (h2 : Steps T S cfg slotFn b c) :
    Steps T S cfg slotFn a c := by
  induction h1 with
  | refl => exact h2
  | head hf hm _ ih => exact .head hf hm (ih h2)

theorem Steps.inv {I : State → Prop} (hI : ∀ s s', s.flag = none → Micro T S cfg slotFn s s' → I s → I s')
    {s s' : State} (h : Steps T S cfg slotFn s s') : I s → I s' := by
  induction h with
  | refl => exact id
  | head hf hm _ ih => exact fun hi => ih (hI _ _ hf hm hi)

theorem steps_creadLoop (fuel : Nat) : ∀ (s : State) (c : Nat) (view : Bytes) (chs : List ReqChoice) (cl : Client),
    s.flag = none → s.clients[c]? = some cl → cl.opened = true →
    Steps T S cfg slotFn s (creadLoop T S cfg slotFn fuel s c view chs) := by
  induction fuel with
  | zero => intro s _ _ _ _ _ _ _; exact .refl s
  | succ fuel ih =>
    intro s c view chs cl hf hc ho
    rw [creadLoop]
    cases CDecode.decode T slotFn cfg.limit view with
    | invalid => exact .one hf (.closeClient s c)
    | panic => exact .one hf (.fail s _)
    | incomplete => exact .one hf (.leftover s c view)
    | ok cm n =>
      dsimp only
      generalize (if (localAnswer T S cfg cm).isNone = true then (chs.head?.getD { visit := [] }, chs.tail)
        else (({ visit := [] } : ReqChoice), chs)) = p
      refine .head hf (.request s c cm p.1 cl hc ho) ?_
      generalize (onRequest T S cfg s c cm p.1) = res
      obtain ⟨s1, quit⟩ := res
      dsimp only
      refine iteInduction (fun _ => .refl s1) fun hf1 => ?_
      have hf1 : s1.flag = none := by simpa using hf1
      cases hc1 : s1.client c with
      | none => cases quit <;> exact .refl s1
      | some cl1 =>
        cases quit with
        | true =>
          dsimp only
          rw [if_pos rfl]
          exact iteInduction (fun _ => .one hf1 (.closeClient s1 c)) fun _ => .one hf1 (.closing s1 c)
        | false =>
          dsimp only
          rw [if_neg Bool.false_ne_true]
          exact iteInduction (fun _ => .refl s1) fun ho1 => ih s1 c _ _ cl1 hf1 hc1 (by simpa using ho1)

theorem steps_clientBytes (s : State) (c : Nat) (chunk : Bytes) (chs : List ReqChoice) (hf : s.flag = none) :
    Steps T S cfg slotFn s (clientBytes T S cfg slotFn s c chunk chs) := by
  unfold clientBytes
  split
  · exact .refl s
  · rename_i cl hc
    split
    · exact .refl s
    · rename_i ho
      exact .head hf (.leftover s c []) (steps_creadLoop _ _ c _ chs { cl with leftover := [] } hf
        (client_upd_same s c _ cl hc) (by simpa using (not_or.mp ho).1))

/-- the read loop goes on only from an unflagged state -/
theorem flag_onFragReply {s s' : State} {mi slot rtype : Nat} {body : Bytes} (hf : s.flag = none)
    (h : onFragReply T S cfg slotFn s mi slot rtype body = (s', true)) : s'.flag = none := by
  unfold onFragReply at h
  split at h
  · cases h
  · split at h
    split at h
    · cases h
    · cases h; exact hf
    · cases h; exact hf
    · injection h with h1 h2
      subst h1; simpa using h2
    · split at h
      · cases h
      · cases h; rw [(cs_deliver _ _).flag]; exact hf

theorem steps_initPrelude {s s1 : State} {b : Nat} {x : Backend} {view v1 : Bytes} (hf : s.flag = none)
    (hx : s.backends[b]? = some x) (h : initPrelude s b x view = some (s1, v1)) :
    Steps T S cfg slotFn s s1 ∧ ∃ x1, s1.backends[b]? = some x1 := by
  unfold initPrelude at h
  split at h
  · split at h
    · cases h
    · cases h
      exact ⟨.one hf (.initDone s b), _, backend_upd_same s b _ x hx⟩
    · cases h; exact ⟨.refl s, x, hx⟩
    · cases h
      exact ⟨.one hf (.fail s _), x, by rw [backends_fail]; exact hx⟩
  · cases h; exact ⟨.refl s, x, hx⟩

theorem steps_sreadLoop (fuel : Nat) : ∀ (s : State) (b : Nat) (view : Bytes), s.flag = none →
    Steps T S cfg slotFn s (sreadLoop T S cfg slotFn fuel s b view) := by
  induction fuel with
  | zero => intro s _ _ _; exact .refl s
  | succ fuel ih =>
    intro s b view hf
    rw [sreadLoop]
    cases hx : s.backend b with
    | none => exact .refl s
    | some x =>
      dsimp only
      refine iteInduction (fun _ => .refl s) fun _ => ?_
      cases hinit : initPrelude s b x view with
      | none => exact .one hf (.leftoverB s b view)
      | some p =>
        obtain ⟨s1, v1⟩ := p
        obtain ⟨h1, x1, hx1⟩ := steps_initPrelude (T := T) (S := S) (cfg := cfg) (slotFn := slotFn) hf hx hinit
        refine h1.trans ?_
        dsimp only
        refine iteInduction (fun _ => .refl s1) fun hf1 => ?_
        have hf1 : s1.flag = none := by simpa using hf1
        rw [show s1.backend b = some x1 from hx1, Option.getD_some]
        cases SDecode.frameReply T v1 with
        | incomplete => exact .one hf1 (.leftoverB s1 b v1)
        | stuck => exact .one hf1 (.fail s1 _)
        | ok rtype n =>
          dsimp only
          cases hq : x1.inQ with
          | nil => exact .one hf1 (.fail s1 _)
          | cons f inQ' =>
            dsimp only
            cases f with
            | asking => exact .head hf1 (.pop s1 b x1 _ inQ' hx1 hq nofun) (ih _ b _ hf1)
            | probe =>
              refine .head hf1 (.pop s1 b x1 _ inQ' hx1 hq nofun) ?_
              exact iteInduction (fun _ => .one hf1 (.fail _ _)) fun _ => ih _ b _ hf1
            | frag mi slot =>
              dsimp only
              refine .head hf1 (.reply s1 b x1 mi slot inQ' rtype (v1.take n) hx1 hq) ?_
              cases heq : onFragReply T S cfg slotFn (dropTimeout (s1.updBackend b fun x => { x with inQ := inQ' }) (.frag mi slot))
                  mi slot rtype (v1.take n) with
              | mk s' go =>
                cases go with
                | true => exact ih s' b _ (flag_onFragReply (s := dropTimeout (s1.updBackend b _) _) hf1 heq)
                | false => exact .refl s'

theorem steps_backendBytes (s : State) (b : Nat) (chunk : Bytes) (hf : s.flag = none) :
    Steps T S cfg slotFn s (backendBytes T S cfg slotFn s b chunk) := by
  unfold backendBytes
  split
  · exact .refl s
  · split
    · exact .refl s
    · exact .head hf (.leftoverB s b []) (steps_sreadLoop _ _ b _ hf)

theorem steps_tasks (ts : List Task) : ∀ s : State, s.flag = none →
    Steps T S cfg slotFn s (ts.foldl (runTask S cfg (backendClose S)) s) ∧
      (ts.foldl (runTask S cfg (backendClose S)) s).flag = none := by
  induction ts with
  | nil => intro s hf; exact ⟨.refl s, hf⟩
  | cons t ts ih =>
    intro s hf
    rw [List.foldl_cons]
    cases t with
    | write b =>
      obtain ⟨h1, h2⟩ := ih (writeSignal S cfg s b) (by rw [flag_writeSignal]; exact hf)
      exact ⟨.head hf (.writeSignal s b) h1, h2⟩
    | close b =>
      obtain ⟨h1, h2⟩ := ih (backendClose S s b) (by rw [flag_backendClose]; exact hf)
      exact ⟨.head hf (.backendClose s b) h1, h2⟩

theorem steps_step (s : State) (e : Event) : Steps T S cfg slotFn s (step T S cfg slotFn s e) := by
  unfold step
  split
  · exact .refl s
  · rename_i hf
    have hf : s.flag = none := by simpa using hf
    cases e with
    | connect a => exact .one hf (.connect s a)
    | clientBytes c chunk chs => exact steps_clientBytes s c chunk chs hf
    | clientClose c => exact .one hf (.closeClient s c)
    | runTasks =>
      obtain ⟨h1, h2⟩ := steps_tasks (T := T) (slotFn := slotFn) (S := S) (cfg := cfg) s.tasks s hf
      exact h1.trans (.one h2 (.clearTasks _))
    | backendBytes b chunk => exact steps_backendBytes s b chunk hf
    | backendClose b => exact .one hf (.backendClose s b)
    | expire n => exact .one hf (.expire s n)
    | poolRemove p => exact .one hf (.poolRemove s p)

theorem steps_run (es : List Event) : ∀ s : State, Steps T S cfg slotFn s (run T S cfg slotFn s es) := by
  induction es with
  | nil => exact .refl
  | cons e es ih => intro s; exact (steps_step s e).trans (ih _)

end
end RcVerif.Lemmas.SimSteps
