import RcVerif.Model.Inst
import RcVerif.Model.CDecode
import RcVerif.Spec.RefTables
import RcVerif.Lemmas.Group
/-
  Facts about the command tables REGENERATED from core/codec/commands.go, each
  evaluated by the kernel over the whole (finite) table, and the general lemmas
  that lift them to arbitrary command names. The facts that look up every row of one table in another are
  evaluated through a proved look-up index (`Idx`, `lookup_eq_find`).
-/
namespace RcVerif.Lemmas.Tables
open RcVerif RcVerif.Commands RcVerif.CDecode

theorem checkArgs_cases (T : Tables) (c n : Nat) : checkArgs T c n = c ∨ checkArgs T c n = T.cWrongArgs := by
  -- `checkArgs` is a tree of conditionals with `c` or `T.cWrongArgs` at every leaf
  have ite {p : Prop} [Decidable p] {a b : Nat} (ha : a = c ∨ a = T.cWrongArgs) (hb : b = c ∨ b = T.cWrongArgs) :
      (if p then a else b) = c ∨ (if p then a else b) = T.cWrongArgs := by split <;> assumption
  have yes : c = c ∨ c = T.cWrongArgs := .inl rfl
  have no : T.cWrongArgs = c ∨ T.cWrongArgs = T.cWrongArgs := .inr rfl
  unfold checkArgs
  split
  · exact no
  · exact ite (ite no yes) (ite (ite no yes) (ite (ite no yes) no))

/-- a request type other than "unknown" / "wrong arguments" comes from the name table and passed the arity check -/
theorem transform2Type_real (T : Tables) (name : Bytes) (n c : Nat)
    (h : transform2Type T name n = c) (h1 : c ≠ T.cUnknown) (h2 : c ≠ T.cWrongArgs) :
    lookup (toLower name) T.str2type = some c ∧ checkArgs T c n = c := by
  unfold transform2Type at h
  cases hl : lookup (toLower name) T.str2type with
  | none => rw [hl] at h; exact absurd h.symm h1
  | some v =>
    rw [hl] at h
    simp only at h
    rcases checkArgs_cases T v n with hc | hc
    · rw [hc] at h; subst h; exact ⟨rfl, hc⟩
    · rw [hc] at h; exact absurd h.symm h2

theorem ite_not_eq {α} {p : Prop} [Decidable p] {b : Bool} (h : b = true ↔ ¬ p) (x y : α) :
    (if p then x else y) = if b then y else x := by
  by_cases hp : p
  · rw [if_pos hp, if_neg (fun hb => h.mp hb hp)]
  · rw [if_neg hp, if_pos (h.mpr hp)]

theorem arityOK_pairs (n : Nat) : Spec.arityOK (-2) n = (decide (2 ≤ n) && decide (n % 2 = 0)) := by
  simp [Spec.arityOK]

/-- `checkArgs` implements the arity classes: per kind of class it says when to reject, `arityOK` when to
    accept -/
theorem checkArgs_spec (c : Nat) (cls : Int) (n : Nat) (hl : lookup c goTables.type2nargs = some cls)
    (hcls : (0 ≤ cls ∧ cls ∈ goTables.nargsFixed) ∨ cls = -1 ∨ cls = -2) :
    checkArgs goTables c n = if Spec.arityOK cls n then c else goTables.cWrongArgs := by
  rw [checkArgs, hl]
  rcases hcls with ⟨h0, hf⟩ | rfl | rfl
  · dsimp only
    rw [if_pos hf]
    refine ite_not_eq ?_ _ _
    have h1 : cls ≠ -1 := by omega
    have h2 : cls ≠ -2 := by omega
    simp only [Spec.arityOK, h0, h1, h2, decide_true, decide_false, Bool.true_and, Bool.false_and,
      Bool.or_false, decide_eq_true_eq, Decidable.not_not]
  · show (if n < 1 then _ else _) = _
    have h : decide (1 ≤ n) = true ↔ ¬ n < 1 := by rw [decide_eq_true_eq, Nat.not_lt]
    rw [show Spec.arityOK (-1) n = decide (1 ≤ n) by simp [Spec.arityOK]]
    exact ite_not_eq h _ _
  · show (if n < 2 ∨ n % 2 = 1 then _ else _) = _
    have h : (decide (2 ≤ n) && decide (n % 2 = 0)) = true ↔ ¬ (n < 2 ∨ n % 2 = 1) := by
      rw [Bool.and_eq_true, decide_eq_true_eq, decide_eq_true_eq, not_or, Nat.not_lt, ← Nat.mod_two_ne_one]
    rw [arityOK_pairs]
    exact ite_not_eq h _ _

/-! ### an index for the kernel

  The table facts below look up each row of one table in another. `lookup` scans, so evaluating such a fact in the
  kernel is quadratic in the table size. `lookup_eq_find` replaces the scan by a descent in a binary tree, along the
  bits of a number `hash k` that goes with the key. Nothing is asked of `hash`: equal keys have equal numbers and so
  take the same path, which is all the proof needs; a badly spread `hash` only makes the tree deep. -/

inductive Idx (α β : Type)
  | leaf
  | node (k : α) (v : β) (l r : Idx α β)

section
variable {α β : Type} [DecidableEq α]

def Idx.insert (k : α) (v : β) : Idx α β → Nat → Idx α β
  | .leaf, _ => .node k v .leaf .leaf
  | .node k' v' l r, h =>
    if k = k' then .node k v l r
    else if h % 2 = 0 then .node k' v' (l.insert k v (h / 2)) r else .node k' v' l (r.insert k v (h / 2))

def Idx.find (k : α) : Idx α β → Nat → Option β
  | .leaf, _ => none
  | .node k' v' l r, h => if k = k' then some v' else if h % 2 = 0 then l.find k (h / 2) else r.find k (h / 2)

theorem Idx.find_insert (k k' : α) (v : β) (t : Idx α β) (h h' : Nat) (hh : k' = k → h' = h) :
    (t.insert k v h).find k' h' = if k' = k then some v else t.find k' h' := by
  induction t generalizing h h' with
  | leaf => simp [insert, find]
  | node k0 v0 l r ihl ihr =>
    have hl := ihl (h / 2) (h' / 2) fun e => by rw [hh e]
    have hr := ihr (h / 2) (h' / 2) fun e => by rw [hh e]
    simp only [insert]
    by_cases e : k = k0
    · subst e
      simp only [↓reduceIte, find]
      split <;> rfl
    · by_cases b : h % 2 = 0 <;> simp only [e, b, ↓reduceIte, find, hl, hr]
      -- the inserted key is looked up with the number it was inserted with, so it turns as `insert` did;
      -- for any other key both sides are the same look-up
      all_goals
        by_cases ek : k' = k
        · simp [ek, hh ek, e, b]
        · simp [ek]

def Idx.ofList (hash : α → Nat) : List (α × β) → Idx α β
  | [] => .leaf
  | (k, v) :: l => (ofList hash l).insert k v (hash k)

theorem lookup_eq_find (hash : α → Nat) (k : α) (l : List (α × β)) :
    lookup k l = (Idx.ofList hash l).find k (hash k) := by
  induction l with
  | nil => rfl
  | cons p l ih => rw [Idx.ofList, Idx.find_insert _ _ _ _ _ _ fun e => by rw [e], lookup, ih]

end

def nameHash (bs : Bytes) : Nat := bs.foldl (fun a b => a * 31 + b.toNat) 0

/-! ### finite facts about the regenerated tables (kernel-evaluated) -/

theorem script_not_split : ∀ c, c = goTables.cEval ∨ c = goTables.cEvalsha →
    ¬ (c = goTables.cMget ∨ c = goTables.cDel) ∧ c ≠ goTables.cMset := by
  rintro c (rfl | rfl) <;> decide

theorem special_codes_distinct :
    ∀ c ∈ [goTables.cMget, goTables.cDel, goTables.cMset, goTables.cEval, goTables.cEvalsha],
      c ≠ goTables.cUnknown ∧ c ≠ goTables.cWrongArgs ∧ c ≠ goTables.cTooLarge := by decide

/-- the only name that maps to MGET / DEL / MSET is "mget" / "del" / "mset" -/
theorem split_names : ∀ p ∈ goTables.str2type,
    (p.2 = goTables.cMget → p.1 = nameMget) ∧ (p.2 = goTables.cDel → p.1 = nameDel) ∧
    (p.2 = goTables.cMset → p.1 = nameMset) := by decide +kernel

/-- every name of the table is already lower case -/
theorem names_lower : ∀ p ∈ goTables.str2type, toLower p.1 = p.1 := by decide +kernel

/-- every named command is below the sentinel, above UNKNOWN, and is neither of the two pseudo types -/
theorem names_real : ∀ p ∈ goTables.str2type,
    goTables.cUnknown < p.2 ∧ p.2 < goTables.cSentinel ∧ p.2 ≠ goTables.cTooLarge ∧ p.2 ≠ goTables.cWrongArgs := by
  decide +kernel

/-- the two name maps are mutually inverse -/
theorem maps_inverse :
    (∀ p ∈ Gen.str2type, lookup p.2 Gen.type2str = some p.1) ∧
    (∀ p ∈ Gen.type2str, lookup p.2 Gen.str2type = some p.1) := by
  simp only [lookup_eq_find nameHash, lookup_eq_find (id : Nat → Nat)]
  decide +kernel

/-- every named command has an arity class, and it is the one of the frozen reference table -/
theorem arity_matches_reference : ∀ p ∈ goTables.str2type,
    lookup p.2 goTables.type2nargs = lookup p.1 Spec.refArity ∧ (lookup p.1 Spec.refArity).isSome := by
  simp only [lookup_eq_find nameHash, lookup_eq_find (id : Nat → Nat)]
  decide +kernel

/-- the reference table has no name the code lacks -/
theorem reference_covered : ∀ p ∈ Spec.refArity, (lookup p.1 goTables.str2type).isSome := by
  simp only [lookup_eq_find nameHash]
  decide +kernel

/-- the classes of the reference table are of the three kinds the code knows: a fixed count, "at least one"
    and "pairs" -/
theorem ref_classes : ∀ p ∈ Spec.refArity,
    (0 ≤ p.2 ∧ p.2 ∈ goTables.nargsFixed) ∨ p.2 = -1 ∨ p.2 = -2 := by decide +kernel

theorem eval_names : ∀ p ∈ goTables.str2type,
    (p.2 = goTables.cEval ↔ p.1 = Spec.nameEval) ∧ (p.2 = goTables.cEvalsha ↔ p.1 = Spec.nameEvalsha) := by
  decide +kernel

theorem mset_class : lookup goTables.cMset goTables.type2nargs = some (-2) := by decide +kernel

/-- the supported name set is exactly the documented one (docs/command.md "Yes" rows) plus AUTH,
    which the proxy answers itself -/
theorem names_eq_docs :
    (∀ p ∈ goTables.str2type, p.1 = [97, 117, 116, 104] ∨ (p.1, true) ∈ Gen.docRows) ∧
    (∀ r ∈ Gen.docRows, r.2 = true → (lookup r.1 goTables.str2type).isSome) := by
  -- `docRows` is itself a table from names to flags, so membership comes from a look-up in it
  have h : (∀ p ∈ goTables.str2type, p.1 = [97, 117, 116, 104] ∨ lookup p.1 Gen.docRows = some true) ∧
      (∀ r ∈ Gen.docRows, r.2 = true → (lookup r.1 goTables.str2type).isSome) := by
    simp only [lookup_eq_find nameHash]
    decide +kernel
  exact ⟨fun p hp => (h.1 p hp).imp_right (Group.lookup_mem _ _ _), h.2⟩

end RcVerif.Lemmas.Tables
