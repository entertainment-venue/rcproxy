import RcVerif.Lemmas.SimSteps
/-
  Backend-side invariants of the event-loop model (`RcVerif.Model.Sim`):

  * `BInv`  - per redis connection: the byte stream written is the handshake followed by the bytes of the
              fragments written, in the order they were queued; what was queued is what was written followed
              by what is still pending (on a closed connection: by what was lost); on an open connection the
              awaiting-reply queue is a suffix of what was written.
  * `DInv`  - per redis connection and client: the fragments the client's requests queued directly carry
              non-decreasing request numbers, and each names a stored request of that client.
  Both are checked per micro-step of the machine (`Lemmas/SimSteps`): `DInv` through a framing relation (`Frame`,
  `frame_micro`), `BInv` directly (`binv_micro`).
-/
namespace RcVerif.Lemmas.SimBack
open RcVerif RcVerif.Sim RcVerif.Merge RcVerif.Lemmas.SimSteps

def BSame (s s' : State) : Prop := s'.backends = s.backends
theorem BSame.refl (s : State) : BSame s s := rfl
theorem BSame.trans {a b c : State} (h1 : BSame a b) (h2 : BSame b c) : BSame a c := Eq.trans h2 h1

theorem bsame_fail (s : State) (w : String) : BSame s (s.fail w) := backends_fail s w
theorem bsame_poolRemove (s : State) (p : Nat) : BSame s (poolRemove s p) := backends_poolRemove s p

/-! ### clients and requests only grow -/

/-- clients only ever decode more; a stored request keeps its owner and number -/
structure Ext (s s' : State) : Prop where
  clients : ∀ (c : Nat) (cl : Client), s.clients[c]? = some cl → ∃ cl', s'.clients[c]? = some cl' ∧ cl.decoded ≤ cl'.decoded
  msgs : ∀ (i : Nat) (r : Req), s.msgs[i]? = some r → ∃ r', s'.msgs[i]? = some r' ∧ r'.owner = r.owner ∧ r'.num = r.num

theorem Ext.refl (s : State) : Ext s s := ⟨fun _ cl h => ⟨cl, h, Nat.le_refl _⟩, fun _ r h => ⟨r, h, rfl, rfl⟩⟩
theorem Ext.trans {a b c : State} (h1 : Ext a b) (h2 : Ext b c) : Ext a c := by
  refine ⟨fun i cl h => ?_, fun i r h => ?_⟩
  · obtain ⟨cl1, h1c, hle1⟩ := h1.clients i cl h
    obtain ⟨cl2, h2c, hle2⟩ := h2.clients i cl1 h1c
    exact ⟨cl2, h2c, Nat.le_trans hle1 hle2⟩
  · obtain ⟨r1, h1r, ho1, hn1⟩ := h1.msgs i r h
    obtain ⟨r2, h2r, ho2, hn2⟩ := h2.msgs i r1 h1r
    exact ⟨r2, h2r, ho2.trans ho1, hn2.trans hn1⟩

theorem ext_of_same {s s' : State} (h : SameCM s s') : Ext s s' :=
  ⟨fun _ cl hc => ⟨cl, h.1 ▸ hc, Nat.le_refl _⟩, fun _ r hr => ⟨r, h.2 ▸ hr, rfl, rfl⟩⟩

theorem ext_updClient (s : State) (c : Nat) (f : Client → Client) (hf : ∀ cl, cl.decoded ≤ (f cl).decoded) :
    Ext s (s.updClient c f) :=
  ⟨exists_setAt (P := fun _ (cl cl' : Client) => cl.decoded ≤ cl'.decoded) s.clients c f (fun _ _ _ => Nat.le_refl _) fun cl _ => hf cl,
    fun _ r hr => ⟨r, hr, rfl, rfl⟩⟩

theorem ext_updReq (s : State) (mi : Nat) (f : Req → Req) (hf : ∀ r, (f r).owner = r.owner ∧ (f r).num = r.num) :
    Ext s (s.updReq mi f) :=
  ⟨fun _ cl hc => ⟨cl, hc, Nat.le_refl _⟩,
    exists_setAt (P := fun _ (r r' : Req) => r'.owner = r.owner ∧ r'.num = r.num) s.msgs mi f (fun _ _ _ => ⟨rfl, rfl⟩) fun r _ => hf r⟩

theorem ext_appendMsg (s : State) (r : Req) : Ext s { s with msgs := s.msgs ++ [r] } :=
  ⟨fun _ cl hc => ⟨cl, hc, Nat.le_refl _⟩, fun i r0 hr => ⟨r0, getElem?_append_old s.msgs r r0 i hr, rfl, rfl⟩⟩

/-! ### connections are only added, and nothing new is queued -/

def enqAt (s : State) (i : Nat) : List QEntry := match s.backends[i]? with | some b => b.enq | none => []

theorem enqAt_some {s : State} {i : Nat} {b : Backend} (h : s.backends[i]? = some b) : enqAt s i = b.enq := by
  unfold enqAt; rw [h]

theorem enqAt_none {s : State} {i : Nat} (h : s.backends.length ≤ i) : enqAt s i = [] := by
  unfold enqAt; rw [List.getElem?_eq_none h]

/-- what was queued to connection `i`, whether it is there or not -/
theorem enqAt_cases {P : List QEntry → Prop} (s : State) (i : Nat) (none : s.backends.length ≤ i → P [])
    (some : ∀ b, s.backends[i]? = some b → P b.enq) : P (enqAt s i) := by
  unfold enqAt
  split
  · exact some _ ‹_›
  · exact none (List.getElem?_eq_none_iff.mp ‹_›)

structure BKeep (s s' : State) : Prop where
  blen : s.backends.length ≤ s'.backends.length
  enq : ∀ (i : Nat) (b' : Backend), s'.backends[i]? = some b' → b'.enq = enqAt s i

theorem bkeep_of_bsame (s s' : State) (h : BSame s s') : BKeep s s' :=
  ⟨Nat.le_of_eq (congrArg List.length h).symm, fun _ _ hb => (enqAt_some (h ▸ hb)).symm⟩

theorem BKeep.refl (s : State) : BKeep s s := bkeep_of_bsame s s rfl

theorem BKeep.trans {a b c : State} (h1 : BKeep a b) (h2 : BKeep b c) : BKeep a c := by
  refine ⟨Nat.le_trans h1.blen h2.blen, fun i b'' hb'' => ?_⟩
  rw [h2.enq i b'' hb'']
  exact enqAt_cases (P := (· = enqAt a i)) b i (fun hge => (enqAt_none (Nat.le_trans h1.blen hge)).symm) (h1.enq i)

theorem bkeep_fail (s : State) (w : String) : BKeep s (s.fail w) := bkeep_of_bsame _ _ (bsame_fail s w)

theorem bkeep_updBackend (s : State) (b : Nat) (f : Backend → Backend) (hf : ∀ x, (f x).enq = x.enq) :
    BKeep s (s.updBackend b f) :=
  ⟨Nat.le_of_eq (setAt_length s.backends b f).symm,
    forall_setAt s.backends b f (fun _ _ _ hy => (enqAt_some hy).symm) fun x hx => (hf x).trans (enqAt_some hx).symm⟩

theorem bkeep_appendBackend (s : State) (x : Backend) (ps : List Pool) (hx : x.enq = []) :
    BKeep s { s with backends := s.backends ++ [x], pools := ps } :=
  ⟨by rw [List.length_append]; exact Nat.le_add_right _ _,
    forall_append_new s.backends x (fun _ _ hy => (enqAt_some hy).symm) (hx.trans (enqAt_none (Nat.le_refl _)).symm)⟩

section
variable (T : Tables) (S : Strs) (cfg : Cfg) (slotFn : Bytes → Nat)

theorem bkeep_poolGet (s : State) (p : Nat) : BKeep s (poolGet S cfg s p).1 :=
  poolGet_rel S cfg s p (bkeep_fail s _) (fun _ => bkeep_of_bsame _ _ rfl) (fun _ _ _ => bkeep_appendBackend s _ _ rfl)

theorem bkeep_writeSignal (s : State) (b : Nat) : BKeep s (writeSignal S cfg s b) := by
  refine writeSignal_cases S cfg s b (BKeep.refl s) fun _ _ _ _ => BKeep.trans ?_ (bkeep_of_bsame (s.updBackend b _) _ rfl)
  exact bkeep_updBackend s b _ fun _ => rfl

theorem bkeep_resolve (ty : Nat) (s : State) (vs : List (Nat × Bytes)) (acc : List (Nat × Nat)) :
    BKeep s (resolve T S cfg ty s vs acc).1 :=
  resolve_rel T S cfg ty BKeep.refl BKeep.trans bkeep_fail (bkeep_poolGet S cfg) s vs acc

/-! ### what is queued to a connection, and in which order -/

/-- request numbers of the fragments client `c` queued directly, in queue order -/
def numsOf (c : Nat) (l : List QEntry) : List Nat :=
  l.filterMap (fun e => match e.direct with | some (c', n) => if c' = c then some n else none | none => none)

theorem numsOf_append (c : Nat) (l1 l2 : List QEntry) : numsOf c (l1 ++ l2) = numsOf c l1 ++ numsOf c l2 :=
  List.filterMap_append

theorem mem_numsOf (c n : Nat) (l : List QEntry) : n ∈ numsOf c l ↔ ∃ e ∈ l, e.direct = some (c, n) := by
  unfold numsOf
  rw [List.mem_filterMap]
  constructor
  · rintro ⟨e, he, h⟩
    refine ⟨e, he, ?_⟩
    split at h
    · rename_i c' n' hd
      split at h
      · rename_i hc; cases h; rw [hd, hc]
      · cases h
    · cases h
  · rintro ⟨e, he, h⟩
    exact ⟨e, he, by rw [h]; exact if_pos rfl⟩

/-- a directly queued entry names a stored request of that client with that number, already counted -/
def EntryOK (s : State) (e : QEntry) : Prop :=
  ∀ c n, e.direct = some (c, n) →
    (∃ cl, s.clients[c]? = some cl ∧ n < cl.decoded) ∧
    ∃ id slot r, e.ref = .frag id slot ∧ s.msgs[id]? = some r ∧ r.owner = c ∧ r.num = n

theorem entryOK_ext (s s' : State) (e : QEntry) (hx : Ext s s') (h : EntryOK s e) : EntryOK s' e := by
  intro c n hd
  obtain ⟨⟨cl, hc, hlt⟩, id, slot, r, href, hr, ho, hn⟩ := h c n hd
  obtain ⟨cl', hc', hle⟩ := hx.clients c cl hc
  obtain ⟨r', hr', ho', hn'⟩ := hx.msgs id r hr
  exact ⟨⟨cl', hc', Nat.lt_of_lt_of_le hlt hle⟩, id, slot, r', href, hr', ho'.trans ho, hn'.trans hn⟩

/-- entries in order, followed by entries in order each numbered `n` with its client's count at most `n + 1`: in
    order, since each earlier number is below its client's count -/
theorem inOrder_append (s s' : State) (hx : Ext s s') (old extra : List QEntry) (hok : ∀ e ∈ old, EntryOK s e)
    (hpw : ∀ c, (numsOf c old).Pairwise (· ≤ ·)) (hok' : ∀ e ∈ extra, EntryOK s' e)
    (hlo : ∀ e ∈ extra, ∀ c n, e.direct = some (c, n) → ∀ cl, s.clients[c]? = some cl → cl.decoded ≤ n + 1)
    (hpw' : ∀ c, (numsOf c extra).Pairwise (· ≤ ·)) :
    (∀ e ∈ old ++ extra, EntryOK s' e) ∧ ∀ c, (numsOf c (old ++ extra)).Pairwise (· ≤ ·) := by
  refine ⟨fun e hm => (List.mem_append.mp hm).elim (fun h => entryOK_ext s s' e hx (hok e h)) (hok' e), fun c => ?_⟩
  rw [numsOf_append, List.pairwise_append]
  refine ⟨hpw c, hpw' c, fun x hx y hy => ?_⟩
  obtain ⟨e1, he1, hd1⟩ := (mem_numsOf c x old).mp hx
  obtain ⟨e2, he2, hd2⟩ := (mem_numsOf c y extra).mp hy
  obtain ⟨⟨cl, hcl, hlt⟩, _⟩ := hok e1 he1 c x hd1
  exact Nat.le_of_lt_succ (Nat.lt_of_lt_of_le hlt (hlo e2 he2 c y hd2 cl hcl))

/-- new entries are appended; a new directly queued entry is numbered no lower than anything its client
    had decoded before -/
structure Frame (s s' : State) : Prop where
  ext : Ext s s'
  blen : s.backends.length ≤ s'.backends.length
  enq : ∀ (i : Nat) (b' : Backend), s'.backends[i]? = some b' → ∃ extra, b'.enq = enqAt s i ++ extra ∧
      (∀ e ∈ extra, EntryOK s' e) ∧
      (∀ e ∈ extra, ∀ c n, e.direct = some (c, n) → ∀ cl, s.clients[c]? = some cl → cl.decoded ≤ n) ∧
      ∀ c, (numsOf c extra).Pairwise (· ≤ ·)

theorem frame_of_keep_ext (s s' : State) (hx : Ext s s') (hk : BKeep s s') : Frame s s' :=
  ⟨hx, hk.blen, fun i b' h => ⟨[], (hk.enq i b' h).trans (List.append_nil _).symm, List.forall_mem_nil _, List.forall_mem_nil _, fun _ => .nil⟩⟩

theorem frame_ext_bsame {s s' : State} (hx : Ext s s') (hb : BSame s s') : Frame s s' :=
  frame_of_keep_ext s s' hx (bkeep_of_bsame s s' hb)

theorem frame_of_keep {s s' : State} (hs : SameCM s s') (hk : BKeep s s') : Frame s s' :=
  frame_of_keep_ext s s' (ext_of_same hs) hk

theorem Frame.refl (s : State) : Frame s s := frame_ext_bsame (Ext.refl s) rfl

/-- the frame condition read at any index: a connection that is not there has nothing queued -/
theorem Frame.enq_at {s s' : State} (h : Frame s s') (i : Nat) : ∃ extra, enqAt s' i = enqAt s i ++ extra ∧
    (∀ e ∈ extra, EntryOK s' e) ∧
    (∀ e ∈ extra, ∀ c n, e.direct = some (c, n) → ∀ cl, s.clients[c]? = some cl → cl.decoded ≤ n) ∧
    ∀ c, (numsOf c extra).Pairwise (· ≤ ·) := by
  cases hb : s'.backends[i]? with
  | none =>
    have hge : s'.backends.length ≤ i := List.getElem?_eq_none_iff.mp hb
    exact ⟨[], by rw [enqAt_none hge, enqAt_none (Nat.le_trans h.blen hge)]; rfl, List.forall_mem_nil _, List.forall_mem_nil _, fun _ => .nil⟩
  | some b' => rw [enqAt_some hb]; exact h.enq i b' hb

theorem Frame.trans {a b c : State} (h1 : Frame a b) (h2 : Frame b c) : Frame a c := by
  refine ⟨h1.ext.trans h2.ext, Nat.le_trans h1.blen h2.blen, fun i b'' hb'' => ?_⟩
  obtain ⟨ex1, he1, hok1, hlo1, hpw1⟩ := h1.enq_at i
  obtain ⟨ex2, he2, hok2, hlo2, hpw2⟩ := h2.enq i b'' hb''
  obtain ⟨hok, hpw⟩ := inOrder_append b c h2.ext ex1 ex2 hok1 hpw1 hok2
    (fun e he cc n hd cl hcl => Nat.le_succ_of_le (hlo2 e he cc n hd cl hcl)) hpw2
  refine ⟨ex1 ++ ex2, by rw [he2, he1, List.append_assoc], hok, fun e he cc n hd cl hcl => ?_, hpw⟩
  rcases List.mem_append.mp he with h | h
  · exact hlo1 e h cc n hd cl hcl
  · obtain ⟨cl', hcl', hle⟩ := h1.ext.clients cc cl hcl
    exact Nat.le_trans hle (hlo2 e h cc n hd cl' hcl')

/-- the order invariant: on every connection, the fragments one client queued directly carry
    non-decreasing request numbers -/
def DInv (s : State) : Prop :=
  ∀ (i : Nat) (b : Backend), s.backends[i]? = some b →
    (∀ e ∈ b.enq, EntryOK s e) ∧ ∀ c, (numsOf c b.enq).Pairwise (· ≤ ·)

theorem dinv_frame {s s' : State} (hf : Frame s s') (h : DInv s) : DInv s' := by
  intro i b' hb'
  obtain ⟨ex, he, hok, hlo, hpw⟩ := hf.enq i b' hb'
  have hold := enqAt_cases (P := fun l => (∀ e ∈ l, EntryOK s e) ∧ ∀ c, (numsOf c l).Pairwise (· ≤ ·)) s i
    (fun _ => ⟨List.forall_mem_nil _, fun _ => .nil⟩) (h i)
  rw [he]
  exact inOrder_append s s' hf.ext _ ex hold.1 hold.2 hok (fun e he c n hd cl hcl => Nat.le_succ_of_le (hlo e he c n hd cl hcl)) hpw

/-! ### every step is a frame -/

theorem frame_updClient (s : State) (c : Nat) (f : Client → Client) (hf : ∀ cl, cl.decoded ≤ (f cl).decoded) :
    Frame s (s.updClient c f) := frame_ext_bsame (ext_updClient s c f hf) rfl
theorem frame_updReq (s : State) (mi : Nat) (f : Req → Req) (hf : ∀ r, (f r).owner = r.owner ∧ (f r).num = r.num) :
    Frame s (s.updReq mi f) := frame_ext_bsame (ext_updReq s mi f hf) rfl
theorem frame_updBackend (s : State) (b : Nat) (f : Backend → Backend) (hf : ∀ x, (f x).enq = x.enq) :
    Frame s (s.updBackend b f) := frame_of_keep (same_updBackend s b f) (bkeep_updBackend s b f hf)
theorem frame_fail (s : State) (w : String) : Frame s (s.fail w) :=
  frame_ext_bsame (ext_of_same (same_fail s w)) (bsame_fail s w)
theorem frame_poolGet (s : State) (p : Nat) : Frame s (poolGet S cfg s p).1 :=
  frame_of_keep (same_poolGet S cfg s p) (bkeep_poolGet S cfg s p)

theorem frame_closeClient (s : State) (c : Nat) : Frame s (closeClient s c) :=
  frame_updClient s c _ fun _ => Nat.le_refl _

theorem frame_flushClient (s : State) (c : Nat) : Frame s (flushClient s c) := by
  have h1 : ∀ cl, Frame s (s.updClient c (flushUpd s cl)) := fun cl => frame_updClient s c _ fun _ => Nat.le_refl _
  exact flushClient_cases s c (fun _ => Frame.refl s) (fun cl _ _ _ => h1 cl)
    fun cl _ _ _ => (h1 cl).trans (frame_closeClient _ c)

theorem frame_deliver (s : State) (c : Nat) : Frame s (deliver s c) :=
  deliver_cases s c (frame_closeClient s c) (frame_flushClient s c)

theorem frame_pushReq (s : State) (c : Nat) (r : Req) : Frame s (pushReq s c r) :=
  (frame_ext_bsame (ext_appendMsg s r) rfl).trans (frame_updClient _ c _ fun _ => Nat.le_succ _)

theorem frame_answerLocal (s : State) (c : Nat) (m : MMsg) (out : Bytes) : Frame s (answerLocal s c m out) :=
  answerLocal_cases s c m out (Frame.refl s) (fun _ _ _ => frame_updClient s c _ fun _ => Nat.le_succ _)
    (fun _ _ _ => frame_pushReq s c _)

theorem frame_failSteps (g : MMsg → Nat → MMsg → MMsg) (refs : List FragRef) (s : State) :
    Frame s (refs.foldl (failStep g) s) := by
  refine foldl_rel Frame.refl Frame.trans (fun s f => ?_) refs s
  refine failStep_cases g s f (Frame.refl s) fun mi _ _ _ _ => Frame.trans ?_ (frame_flushClient _ _)
  exact frame_updReq s mi _ fun _ => ⟨rfl, rfl⟩

/-- one more entry is queued in the course of a step: a directly queued one is numbered `n` with its client's count
    at least `n` before the step and at most `n + 1` now -/
theorem frame_enqueueOut {s st : State} (b : Nat) (e : QEntry) (hf : Frame s st) (hok : EntryOK st e)
    (hlo : ∀ c n, e.direct = some (c, n) →
      (∀ cl, s.clients[c]? = some cl → cl.decoded ≤ n) ∧ ∀ cl, st.clients[c]? = some cl → cl.decoded ≤ n + 1) :
    Frame s (enqueueOut st b e) := by
  refine ⟨hf.ext.trans (ext_of_same (same_enqueueOut st b e)),
    Nat.le_trans hf.blen (Nat.le_of_eq (setAt_length st.backends b _).symm), ?_⟩
  -- clients and requests are those of `st`; the other connections are as they were
  refine forall_setAt (P := fun i b' => ∃ extra, b'.enq = enqAt s i ++ extra ∧ (∀ e ∈ extra, EntryOK st e) ∧
      (∀ e ∈ extra, ∀ c n, e.direct = some (c, n) → ∀ cl, s.clients[c]? = some cl → cl.decoded ≤ n) ∧
      ∀ c, (numsOf c extra).Pairwise (· ≤ ·)) st.backends b _ (fun j y _ => hf.enq j y) fun x hx => ?_
  obtain ⟨ex, he, hok1, hlo1, hpw1⟩ := hf.enq b x hx
  obtain ⟨hok', hpw'⟩ := inOrder_append st st (Ext.refl st) ex [e] hok1 hpw1 (fun x hm => List.mem_singleton.mp hm ▸ hok)
    (fun x hm c n hd => (hlo c n (List.mem_singleton.mp hm ▸ hd)).2)
    fun c => (List.pairwise_singleton (fun _ _ => False) e).filterMap _ fun _ _ h => h.elim
  refine ⟨ex ++ [e], by show x.enq ++ [e] = _; rw [he, List.append_assoc], hok', fun x hm c n hd cl hcl => ?_, hpw'⟩
  rcases List.mem_append.mp hm with h | h
  · exact hlo1 x h c n hd cl hcl
  · exact (hlo c n (List.mem_singleton.mp h ▸ hd)).1 cl hcl

theorem frame_enqueueOut_none (s : State) (b : Nat) (e : QEntry) (h : e.direct = none) : Frame s (enqueueOut s b e) :=
  frame_enqueueOut b e (Frame.refl s) (fun _ _ hd => nomatch h.symm.trans hd) fun _ _ hd => nomatch h.symm.trans hd

theorem frame_accepted (s1 : State) (c : Nat) (cm : CDecode.CMsg) (targets : List (Nat × Nat)) (cl : Client)
    (hcl : s1.clients[c]? = some cl) : Frame s1 (accepted s1 c cm targets) := by
  refine accepted_cases s1 c cm targets (fun hn => nomatch hcl.symm.trans hn) fun cl' hcl' => ?_
  cases hcl.symm.trans hcl'
  -- clients and requests stay as `pushReq` leaves them: `c` has decoded one more, the request is stored under number
  -- `cl.decoded`; every entry is `fwdEntry .. t` for a target `t`: client `c`, number `cl.decoded`
  refine (List.foldlRecOn targets _ (motive := fun st => Frame s1 st ∧ SameCM (pushReq s1 c _) st)
    ⟨frame_pushReq s1 c _, .refl _⟩ fun st ⟨hf, hs⟩ t _ => ?_).1
  have hc2 := hs.1 ▸ client_upd_same { s1 with msgs := _ } c _ cl hcl
  have hr2 := (congrArg (·[s1.msgs.length]?) hs.2).trans List.getElem?_concat_length
  refine ⟨frame_enqueueOut t.2 _ hf ?_ ?_, hs.trans (same_enqueueOut st _ _)⟩ <;> intro cc n hd <;> cases hd
  · exact ⟨⟨_, hc2, Nat.lt_succ_self _⟩, _, t.1, _, rfl, hr2, rfl, rfl⟩
  · exact ⟨fun cl0 h0 => by cases hcl.symm.trans h0; exact Nat.le_refl _,
      fun cl0 h0 => by cases hc2.symm.trans h0; exact Nat.le_refl _⟩

theorem frame_forward (s : State) (c : Nat) (cm : CDecode.CMsg) (ch : ReqChoice)
    (hex : ∃ cl, s.clients[c]? = some cl) : Frame s (forward T S cfg s c cm ch) := by
  have hf1 : Frame s (resolve T S cfg cm.type s ch.visit []).1 :=
    frame_of_keep (same_resolve T S cfg cm.type s ch.visit []) (bkeep_resolve T S cfg cm.type s ch.visit [])
  obtain ⟨cl0, hcl0⟩ := hex
  obtain ⟨cl, hcl, _⟩ := hf1.ext.clients c cl0 hcl0
  exact forward_cases T S cfg s c cm ch (frame_fail s _) (fun e => hf1.trans (frame_answerLocal _ c _ e)) (fun _ => hf1)
    (hf1.trans (frame_fail _ _)) (hf1.trans (frame_accepted _ c cm _ cl hcl))

theorem frame_onMoved (s : State) (mi slot : Nat) (isAsk : Bool) (addr : Bytes) :
    Frame s (onMoved S cfg s mi slot isAsk addr) := by
  have h1 : Frame s (bumpRed s mi slot) := frame_updReq s mi _ fun _ => ⟨rfl, rfl⟩
  refine onMoved_cases S cfg s mi slot isAsk addr (fun _ => frame_fail s _) (fun r e _ => h1.trans ?_)
    (fun r p _ _ _ => h1.trans ?_)
  · exact (frame_updReq _ mi (fun r => { r with m := failedMsg e r.m slot }) fun _ => ⟨rfl, rfl⟩).trans
      (frame_flushClient _ _)
  · exact resendTo_rel S cfg _ mi slot isAsk p Frame.trans (frame_poolGet S cfg _ p) frame_enqueueOut_none

theorem frame_onFragReply (s : State) (mi slot rtype : Nat)
    (body : Bytes) : Frame s (onFragReply T S cfg slotFn s mi slot rtype body).1 := by
  have h1 : ∀ m', Frame s (s.updReq mi fun r => { r with m := m' }) := fun m' => frame_updReq s mi _ fun _ => ⟨rfl, rfl⟩
  exact onFragReply_cases T S cfg slotFn s mi slot rtype body (frame_fail s _)
    (fun _ m' _ w _ _ => (h1 m').trans (frame_fail _ w)) (fun _ m' _ _ _ _ => h1 m')
    (fun _ m' _ _ => (h1 m').trans (frame_onMoved S cfg _ mi slot _ _))
    (fun _ m' _ _ => (h1 m').trans (frame_deliver _ _))

theorem frame_backendClose (s : State) (b : Nat) : Frame s (backendClose S s b) :=
  backendClose_cases S s b (Frame.refl s) fun _ _ _ =>
    (frame_failSteps (lostMsg S) _ s).trans ((frame_ext_bsame (ext_of_same (foldl_dropTimeout_same _ _))
      (cs_dropTimeouts _ _).backends).trans (frame_updBackend _ b _ fun _ => rfl))

theorem frame_pop (s : State) (b : Nat) (f : FragRef) (inQ' : List FragRef) :
    Frame s (dropTimeout (s.updBackend b (fun x => { x with inQ := inQ' })) f) :=
  (frame_updBackend s b (fun x => { x with inQ := inQ' }) fun _ => rfl).trans
    (frame_ext_bsame (ext_of_same (same_dropTimeout _ f)) (cs_dropTimeout _ f).backends)

theorem frame_micro (s s' : State)
    (hm : Micro T S cfg slotFn s s') : Frame s s' := by
  cases hm with
  | connect a =>
    exact frame_ext_bsame ⟨fun i cl h => ⟨cl, getElem?_append_old s.clients _ cl i h, Nat.le_refl _⟩,
      fun i r h => ⟨r, h, rfl, rfl⟩⟩ rfl
  | fail w => exact frame_fail s w
  | closeClient c => exact frame_closeClient s c
  | leftover c v => exact frame_updClient s c _ fun _ => Nat.le_refl _
  | closing c => exact frame_updClient s c _ fun _ => Nat.le_refl _
  | request c cm ch cl hc ho =>
    exact onRequest_cases T S cfg s c cm ch (frame_answerLocal s c _) (frame_forward T S cfg s c cm ch ⟨cl, hc⟩)
  | leftoverB b v => exact frame_updBackend s b _ fun _ => rfl
  | initDone b => exact frame_updBackend s b _ fun _ => rfl
  | pop b x f inQ' => exact frame_pop s b f inQ'
  | reply b x mi slot inQ' rtype body =>
    exact (frame_pop s b _ inQ').trans (frame_onFragReply T S cfg slotFn _ mi slot rtype body)
  | writeSignal b => exact frame_of_keep (same_writeSignal S cfg s b) (bkeep_writeSignal S cfg s b)
  | backendClose b => exact frame_backendClose S s b
  | clearTasks => exact frame_ext_bsame (ext_of_same ⟨rfl, rfl⟩) rfl
  | expire n =>
    rw [expire_eq]
    exact (frame_failSteps _ _ s).trans (frame_ext_bsame (ext_of_same ⟨rfl, rfl⟩) rfl)
  | poolRemove p => exact frame_ext_bsame (ext_of_same (same_poolRemove s p)) (bsame_poolRemove s p)

theorem frame_run (es : List Event) (s : State) : Frame s (run T S cfg slotFn s es) :=
  (steps_run es s).inv (I := Frame s) (fun a b _ hm h => h.trans (frame_micro T S cfg slotFn a b hm)) (Frame.refl s)

theorem dinv_run (T : Tables) (S : Strs) (cfg : Cfg) (slotFn : Bytes → Nat) (es : List Event) (s : State) (h : DInv s) :
    DInv (run T S cfg slotFn s es) :=
  dinv_frame (frame_run T S cfg slotFn es s) h

/-! ### the stream written to a connection -/

structure BackendOK (b : Backend) : Prop where
  stream : b.out = b.hs ++ (b.sent.map (·.bytes)).flatten
  pre : ∃ lost, b.enq = b.sent ++ lost
  queued : b.opened = true → b.enq = b.sent ++ b.outQ
  await : b.opened = true → ∃ answered, b.sent.map (·.ref) = answered ++ b.inQ

def BInv (s : State) : Prop := ∀ (i : Nat) (b : Backend), s.backends[i]? = some b → BackendOK b

theorem binv_bs {s s' : State} (h : BSame s s') (hi : BInv s) : BInv s' := by
  intro i b hb; rw [h] at hb; exact hi i b hb

theorem binv_updBackend (s : State) (b : Nat) (f : Backend → Backend) (hi : BInv s)
    (hf : ∀ x, s.backends[b]? = some x → BackendOK x → BackendOK (f x)) : BInv (s.updBackend b f) :=
  forall_setAt s.backends b f (fun i y _ hy => hi i y hy) fun x hx => hf x hx (hi b x hx)

theorem binv_enqueueOut (s : State) (b : Nat) (e : QEntry) (hi : BInv s) : BInv (enqueueOut s b e) :=
  binv_bs (s := s.updBackend b _) rfl (binv_updBackend s b _ hi fun _ _ hx =>
    ⟨hx.stream, hx.pre.elim fun l hl => ⟨l ++ [e], (congrArg (· ++ [e]) hl).trans (List.append_assoc ..)⟩,
      fun ho => (congrArg (· ++ [e]) (hx.queued ho)).trans (List.append_assoc ..), hx.await⟩)

theorem binv_poolGet (s : State) (p : Nat) (hi : BInv s) : BInv (poolGet S cfg s p).1 :=
  poolGet_rel (R := fun s s' => BInv s → BInv s') S cfg s p (binv_bs (bsame_fail s _)) (fun _ => binv_bs rfl)
    (fun pool _ _ hi => forall_append_new s.backends (newConn S cfg pool) hi
      ⟨(List.append_nil _).symm, ⟨[], rfl⟩, fun _ => rfl, fun _ => ⟨[], rfl⟩⟩) hi

theorem binv_writeSignal (s : State) (b : Nat) (hi : BInv s) : BInv (writeSignal S cfg s b) := by
  refine writeSignal_cases S cfg s b hi fun x _ hx hop => ?_
  · refine binv_bs (s := s.updBackend b _) rfl (binv_updBackend s b _ hi fun y hy hyok => ?_)
    cases hx.symm.trans hy
    have hq : x.enq = (x.sent ++ x.outQ) ++ [] := (hyok.queued hop).trans (List.append_nil _).symm
    refine ⟨?_, ⟨[], hq⟩, fun _ => hq, fun _ => ?_⟩
    · show x.out ++ _ = x.hs ++ ((x.sent ++ x.outQ).map (·.bytes)).flatten
      rw [hyok.stream, List.map_append, List.flatten_append, List.append_assoc]
    · obtain ⟨ans, ha⟩ := hyok.await hop
      refine ⟨ans, ?_⟩
      show (x.sent ++ x.outQ).map (·.ref) = ans ++ (x.inQ ++ x.outQ.map (·.ref))
      rw [List.map_append, ha, List.append_assoc]

/-! ### every step keeps `BInv` -/

theorem binv_resolve (ty : Nat) (s : State) (vs : List (Nat × Bytes)) (acc : List (Nat × Nat))
    (hi : BInv s) : BInv (resolve T S cfg ty s vs acc).1 :=
  resolve_ind (Q := fun s' _ => BInv s') T S cfg ty (fun s _ _ => binv_bs (bsame_fail s _))
    (fun s _ _ _ _ p h _ _ _ => binv_poolGet S cfg s p h) vs s acc hi

theorem binv_foldl_enqueue (targets : List (Nat × Nat)) (g : Nat × Nat → QEntry) (s : State) (hi : BInv s) :
    BInv (targets.foldl (fun st t => enqueueOut st t.2 (g t)) s) :=
  List.foldlRecOn targets _ (motive := BInv) hi fun s hi _ _ => binv_enqueueOut s _ _ hi

theorem binv_forward (s : State) (c : Nat) (cm : CDecode.CMsg) (ch : ReqChoice)
    (hi : BInv s) : BInv (forward T S cfg s c cm ch) := by
  have h1 := binv_resolve T S cfg cm.type s ch.visit [] hi
  exact forward_cases T S cfg s c cm ch (binv_bs (bsame_fail s _) hi) (fun e => binv_bs (cs_answerLocal _ c _ e).backends h1)
    (fun _ => h1) (binv_bs (bsame_fail _ _) h1) (binv_foldl_enqueue _ _ _ (binv_bs (cs_acceptReq _ c _).backends h1))

theorem binv_onMoved (s : State) (mi slot : Nat) (isAsk : Bool) (addr : Bytes) (hi : BInv s) :
    BInv (onMoved S cfg s mi slot isAsk addr) := by
  have h1 : BInv (bumpRed s mi slot) := binv_bs (cs_updReq s mi _).backends hi
  refine onMoved_cases S cfg s mi slot isAsk addr (fun _ => binv_bs (bsame_fail s _) hi)
    (fun r e _ => binv_bs (cs_failOne _ mi slot e r.owner).backends h1) fun r p _ _ _ =>
      resendTo_rel (R := fun a b => BInv a → BInv b) S cfg _ mi slot isAsk p (fun f g x => g (f x)) (binv_poolGet S cfg _ p)
        (fun st b e _ => binv_enqueueOut st b e) h1

theorem binv_onFragReply (s : State) (mi slot rtype : Nat)
    (body : Bytes) (hi : BInv s) : BInv (onFragReply T S cfg slotFn s mi slot rtype body).1 := by
  have h1 : ∀ m', BInv (s.updReq mi fun r => { r with m := m' }) := fun m' => binv_bs (cs_updReq s mi _).backends hi
  exact onFragReply_cases T S cfg slotFn s mi slot rtype body (binv_bs (bsame_fail s _) hi)
    (fun _ m' _ w _ _ => binv_bs (bsame_fail _ w) (h1 m')) (fun _ m' _ _ _ _ => h1 m')
    (fun _ m' _ _ => binv_onMoved S cfg _ mi slot _ _ (h1 m')) (fun _ m' _ _ => binv_bs (cs_deliver _ _).backends (h1 m'))

theorem binv_pop (s : State) (b : Nat) (x : Backend) (f : FragRef) (inQ' : List FragRef) (hx : s.backends[b]? = some x)
    (hq : x.inQ = f :: inQ') (hi : BInv s) : BInv (s.updBackend b (fun x => { x with inQ := inQ' })) := by
  refine binv_updBackend s b _ hi fun y hy hyok => ⟨hyok.stream, hyok.pre, hyok.queued, fun ho => ?_⟩
  cases hx.symm.trans hy
  obtain ⟨ans, ha⟩ := hyok.await ho
  exact ⟨ans ++ [f], ha.trans (by rw [hq, List.append_assoc]; rfl)⟩

theorem binv_backendClose (s : State) (b : Nat) (hi : BInv s) : BInv (backendClose S s b) :=
  backendClose_cases S s b hi fun _ _ _ =>
    binv_updBackend _ b _ (binv_bs (cs_closeScan S s _ _).backends hi) fun _ _ hy => ⟨hy.stream, hy.pre, nofun, nofun⟩

theorem binv_micro (s s' : State)
    (hm : Micro T S cfg slotFn s s') (hi : BInv s) : BInv s' := by
  have hb : ∀ s', BSame s s' → BInv s' := fun _ h => binv_bs h hi
  cases hm with
  | connect a => exact hb _ rfl
  | fail w => exact hb _ (bsame_fail s w)
  | closeClient c => exact hb _ rfl
  | leftover c v => exact hb _ rfl
  | closing c => exact hb _ rfl
  | request c cm ch cl hc ho =>
    exact onRequest_cases T S cfg s c cm ch (fun out => hb _ (cs_answerLocal s c _ out).backends)
      (binv_forward T S cfg s c cm ch hi)
  | leftoverB b v => exact binv_updBackend s b _ hi fun y _ hy => ⟨hy.stream, hy.pre, hy.queued, hy.await⟩
  | initDone b => exact binv_updBackend s b _ hi fun y _ hy => ⟨hy.stream, hy.pre, hy.queued, hy.await⟩
  | pop b x f inQ' hx hq => exact binv_bs (cs_dropTimeout _ f).backends (binv_pop s b x f inQ' hx hq hi)
  | reply b x mi slot inQ' rtype body hx hq =>
    exact binv_onFragReply T S cfg slotFn _ mi slot rtype body
      (binv_bs (cs_dropTimeout _ _).backends (binv_pop s b x _ inQ' hx hq hi))
  | writeSignal b => exact binv_writeSignal S cfg s b hi
  | backendClose b => exact binv_backendClose S s b hi
  | clearTasks => exact hb _ rfl
  | expire n => exact hb _ (cs_expire S s n).backends
  | poolRemove p => exact hb _ (bsame_poolRemove s p)

end

theorem binv_run (T : Tables) (S : Strs) (cfg : Cfg) (slotFn : Bytes → Nat) (es : List Event) (s : State) (h : BInv s) :
    BInv (run T S cfg slotFn s es) :=
  (steps_run es s).inv (fun a b _ => binv_micro T S cfg slotFn a b) h

theorem binv_init (S : Strs) (cfg : Cfg) (pools : List (Bytes × Bool)) (table : List (Nat × Nat × RSet)) :
    BInv (init S cfg pools table) :=
  init_ind S cfg pools table (fun _ _ hb => nomatch hb) (binv_poolGet S cfg)

theorem dinv_init (S : Strs) (cfg : Cfg) (pools : List (Bytes × Bool)) (table : List (Nat × Nat × RSet)) :
    DInv (init S cfg pools table) :=
  init_ind S cfg pools table (fun _ _ hb => nomatch hb) fun s p => dinv_frame (frame_poolGet S cfg s p)

end RcVerif.Lemmas.SimBack
