import RcVerif.Model.CDecode
/-
  Grouping lemmas for C06: `groupBySlot` produces exactly one group per distinct
  slot, and the group of slot `s` is the sub-list of items of that slot, in the
  original order. First, two facts about look-ups in an association list (`lookup_mem`, `mem_iff_lookup`),
  which the table lemmas use as well.
-/
namespace RcVerif.Lemmas.Group
open RcVerif RcVerif.CDecode

theorem lookup_mem {κ β} [DecidableEq κ] (k : κ) (l : List (κ × β)) (v : β)
    (h : Commands.lookup k l = some v) : (k, v) ∈ l := by
  induction l with
  | nil => cases h
  | cons p l ih =>
    obtain ⟨k', v'⟩ := p
    rw [Commands.lookup] at h
    by_cases hk : k = k'
    · rw [if_pos hk] at h
      rw [hk, Option.some.inj h]
      exact List.mem_cons_self
    · rw [if_neg hk] at h
      exact List.mem_cons_of_mem _ (ih h)

theorem mem_iff_lookup {κ β} [DecidableEq κ] (g : List (κ × β)) (hnd : (g.map (·.1)).Nodup) (k : κ) (v : β) :
    (k, v) ∈ g ↔ Commands.lookup k g = some v := by
  refine ⟨fun hm => ?_, lookup_mem k g v⟩
  induction g with
  | nil => cases hm
  | cons p g ih =>
    obtain ⟨k', v'⟩ := p
    rw [List.map_cons, List.nodup_cons] at hnd
    rw [Commands.lookup]
    by_cases h : k = k'
    · subst h
      rw [if_pos rfl]
      rcases List.mem_cons.mp hm with e | hm
      · rw [(Prod.mk.inj e).2]
      · exact absurd (List.mem_map_of_mem (f := (·.1)) hm) hnd.1
    · rw [if_neg h]
      exact ih hnd.2 ((List.mem_cons.mp hm).resolve_left fun e => h (Prod.mk.inj e).1)

variable {α : Type}

theorem keys_addToGroup (s : Nat) (k : α) (g : List (Nat × List α)) :
    (addToGroup s k g).map (·.1) = if s ∈ g.map (·.1) then g.map (·.1) else g.map (·.1) ++ [s] := by
  induction g with
  | nil => simp [addToGroup]
  | cons p g ih =>
    obtain ⟨s', ks⟩ := p
    simp only [addToGroup]
    by_cases h : s = s'
    · subst h; simp
    · simp only [h, ↓reduceIte, List.map_cons, ih, List.mem_cons, false_or]
      by_cases hm : s ∈ g.map (·.1)
      · simp [hm]
      · simp [hm]

theorem total_addToGroup {β} (s : Nat) (k : β) (g : List (Nat × List β)) :
    ((addToGroup s k g).map (·.2.length)).sum = (g.map (·.2.length)).sum + 1 := by
  induction g with
  | nil => simp [addToGroup]
  | cons p g ih =>
    obtain ⟨s', ks⟩ := p
    simp only [addToGroup]
    split
    · simp; omega
    · simp [ih]; omega

/-- the group of slot `s` after an item of slot `s0` has been added; a slot without a group counts as `[]` -/
theorem lookup_addToGroup (s0 : Nat) (k : α) (g : List (Nat × List α)) (s : Nat) :
    Commands.lookup s (addToGroup s0 k g) =
      if s = s0 then some ((Commands.lookup s0 g).getD [] ++ [k]) else Commands.lookup s g := by
  induction g with
  | nil => rfl
  | cons p g ih =>
    obtain ⟨s', ks⟩ := p
    by_cases h : s0 = s'
    · subst h
      by_cases hs : s = s0 <;>
        simp only [addToGroup, Commands.lookup, hs, if_true, if_false, Option.getD_some]
    · have h' : ¬ s' = s0 := fun e => h e.symm
      by_cases hs : s = s'
      · simp only [addToGroup, Commands.lookup, if_neg h, hs, if_true, if_neg h']
      · simp only [addToGroup, Commands.lookup, if_neg h, ih, if_neg hs]

/-- the invariant of the grouping loop after processing `xs` -/
def Inv (f : α → Nat) (g : List (Nat × List α)) (xs : List α) : Prop :=
  (g.map (·.1)).Nodup ∧
  ∀ s ks, (s, ks) ∈ g ↔ (ks = xs.filter (fun x => f x = s) ∧ ks ≠ [])

theorem inv_step (f : α → Nat) (g : List (Nat × List α)) (xs : List α) (k : α) (h : Inv f g xs) :
    Inv f (addToGroup (f k) k g) (xs ++ [k]) := by
  obtain ⟨hnd, hm⟩ := h
  have hnd' : ((addToGroup (f k) k g).map (·.1)).Nodup := by
    rw [keys_addToGroup]
    split
    · exact hnd
    · rename_i hn
      rw [List.nodup_append]
      exact ⟨hnd, List.nodup_cons.mpr ⟨List.not_mem_nil, List.nodup_nil⟩,
        fun a ha b hb e => hn (by rw [← List.mem_singleton.mp hb, ← e]; exact ha)⟩
  -- the group of `k`'s slot so far: its earlier items, none if there is no group yet
  have hold : (Commands.lookup (f k) g).getD [] = xs.filter (fun x => f x = f k) := by
    cases hl : Commands.lookup (f k) g with
    | some v => exact ((hm _ v).mp ((mem_iff_lookup g hnd _ v).mpr hl)).1
    | none =>
      cases hF : xs.filter (fun x => f x = f k) with
      | nil => rfl
      | cons y ys =>
        have := (mem_iff_lookup g hnd _ _).mp ((hm (f k) (y :: ys)).mpr ⟨hF.symm, List.cons_ne_nil _ _⟩)
        rw [hl] at this
        cases this
  -- read through `lookup`, the step appends `k` to that group and leaves the others, whether the group is new or not
  refine ⟨hnd', fun s ks => ?_⟩
  rw [mem_iff_lookup _ hnd', lookup_addToGroup, hold, List.filter_append]
  by_cases hs : s = f k
  · subst hs
    rw [if_pos rfl, List.filter_cons_of_pos (by simp), List.filter_nil]
    exact ⟨fun e => ⟨(Option.some.inj e).symm,
        Option.some.inj e ▸ List.append_ne_nil_of_right_ne_nil _ (List.cons_ne_nil _ _)⟩,
      fun e => congrArg some e.1.symm⟩
  · rw [if_neg hs, List.filter_cons_of_neg (by simpa using fun e => hs e.symm), List.filter_nil,
      List.append_nil, ← mem_iff_lookup g hnd]
    exact hm s ks

/-- induction along the grouping loop: what holds of no groups and no items, and is kept when the loop files one
    more item, holds of the groups of all items -/
theorem groupBySlot_ind {α} (f : α → Nat) {P : List (Nat × List α) → List α → Prop} (nil : P [] [])
    (step : ∀ g xs k, P g xs → P (addToGroup (f k) k g) (xs ++ [k])) (items : List α) :
    P (groupBySlot f items) items := by
  have (ys g xs) (h : P g xs) : P (ys.foldl (fun g k => addToGroup (f k) k g) g) (xs ++ ys) := by
    induction ys generalizing g xs with
    | nil => rwa [List.append_nil]
    | cons y ys ih =>
      rw [List.append_cons]
      exact ih _ _ (step g xs y h)
  exact this items [] [] nil

theorem group_inv (f : α → Nat) (items : List α) : Inv f (groupBySlot f items) items :=
  groupBySlot_ind f ⟨List.nodup_nil, fun s ks => by simp⟩ (inv_step f) items

theorem group_nodup (f : α → Nat) (items : List α) : ((groupBySlot f items).map (·.1)).Nodup :=
  (group_inv f items).1

theorem group_mem (f : α → Nat) (items : List α) (s : Nat) (ks : List α) :
    (s, ks) ∈ groupBySlot f items ↔ (ks = items.filter (fun x => f x = s) ∧ ks ≠ []) :=
  (group_inv f items).2 s ks

theorem lookup_group (f : α → Nat) (items : List α) (s : Nat) (h : items.filter (fun x => f x = s) ≠ []) :
    Commands.lookup s (groupBySlot f items) = some (items.filter (fun x => f x = s)) :=
  (mem_iff_lookup _ (group_nodup f items) _ _).mp ((group_mem f items s _).mpr ⟨rfl, h⟩)

/-- the fragments built from the groups: slot `s` has one iff some item has slot `s`, and it is built from
    exactly the items of that slot -/
theorem mem_map_group {β} (f : α → Nat) (items : List α) (enc : List α → β) (s : Nat) (req : β) :
    (s, req) ∈ (groupBySlot f items).map (fun p => (p.1, enc p.2)) ↔
      (items.filter (fun x => f x = s) ≠ [] ∧ req = enc (items.filter (fun x => f x = s))) := by
  constructor
  · intro h
    obtain ⟨⟨s', ks⟩, hmem, he⟩ := List.mem_map.mp h
    cases he
    obtain ⟨rfl, hne⟩ := (group_mem f items s' ks).mp hmem
    exact ⟨hne, rfl⟩
  · rintro ⟨hne, rfl⟩
    exact List.mem_map.mpr ⟨(s, _), (group_mem f items s _).mpr ⟨rfl, hne⟩, rfl⟩

end RcVerif.Lemmas.Group
