import RcVerif.Lemmas.SimSteps
import RcVerif.Lemmas.MergeBasic
/-
  "No orphan": the invariant behind C15. In every reachable state inside the modelled domain, every unanswered
  fragment of every uncompleted request sits in the awaiting-reply or pending-write queue of an OPEN redis
  connection - so a reply, a redirect, a close of that connection or a timeout will reach it; nothing is left
  referenced by no queue. Checked per micro-step (`goodP_micro`).
-/
namespace RcVerif.Lemmas.SimPend
open RcVerif RcVerif.Sim RcVerif.Merge RcVerif.Lemmas.SimSteps RcVerif.Lemmas.MergeBasic

/-- the fragment of `slot` exists and still waits for its reply -/
def Undone (m : MMsg) (slot : Nat) : Prop := ∃ f, getFrag m slot = some f ∧ f.done = false

theorem undone_of_advances {m m' : MMsg} (h : Advances m m') (slot : Nat) (hu : Undone m' slot) : Undone m slot := by
  obtain ⟨g, hg, he⟩ := h
  obtain ⟨f', hf', hnd⟩ := hu
  rw [he] at hf'
  obtain ⟨f, hf, rfl⟩ := Option.map_eq_some_iff.mp hf'
  exact ⟨f, hf, by cases hd : f.done with | false => rfl | true => rw [(hg f).2 hd] at hnd; cases hnd⟩

theorem undone_of_setFrag (m : MMsg) (slot : Nat) (g : MFrag → MFrag)
    (hg : ∀ x, (g x).slot = x.slot ∧ ((g x).done = false → x.done = false)) (slot' : Nat)
    (hu : Undone (setFrag m slot g) slot') : Undone m slot' := by
  obtain ⟨f', hf', hnd⟩ := hu
  rw [getFrag_setFrag m slot g (fun x => (hg x).1)] at hf'
  split at hf'
  · obtain ⟨f, hf, rfl⟩ := Option.map_eq_some_iff.mp hf'
    exact ⟨f, hf, (hg f).2 hnd⟩
  · exact ⟨f', hf', hnd⟩

/-! ### pending fragments -/

/-- the fragment is in the awaiting-reply or pending-write queue of an open connection -/
def Pending (s : State) (f : FragRef) : Prop :=
  ∃ (i : Nat) (b : Backend), s.backends[i]? = some b ∧ b.opened = true ∧ f ∈ b.inQ ++ b.outQ.map (·.ref)

/-- no orphan (except possibly the fragment `ex`, which is being processed) -/
def NoOrphanX (s : State) (ex : Option (Nat × Nat)) : Prop :=
  ∀ (mi : Nat) (r : Req), s.msgs[mi]? = some r → r.m.done = false →
    ∀ slot, Undone r.m slot → ex ≠ some (mi, slot) → Pending s (.frag mi slot)

abbrev NoOrphan (s : State) : Prop := NoOrphanX s none

/-- requests only get "more done", pending fragments stay pending -/
structure Keep (s s' : State) : Prop where
  msgs : ∀ (mi : Nat) (r' : Req), s'.msgs[mi]? = some r' → r'.m.done = false →
    ∃ r, s.msgs[mi]? = some r ∧ r.m.done = false ∧ ∀ slot, Undone r'.m slot → Undone r.m slot
  pend : ∀ mi slot, Pending s (.frag mi slot) → Pending s' (.frag mi slot)

theorem Keep.refl (s : State) : Keep s s := ⟨fun _ r' h hd => ⟨r', h, hd, fun _ hu => hu⟩, fun _ _ h => h⟩
theorem Keep.trans {a b c : State} (h1 : Keep a b) (h2 : Keep b c) : Keep a c := by
  refine ⟨fun mi r'' h hd => ?_, fun mi slot h => h2.pend mi slot (h1.pend mi slot h)⟩
  obtain ⟨r', hr', hd', hu'⟩ := h2.msgs mi r'' h hd
  obtain ⟨r, hr, hd0, hu⟩ := h1.msgs mi r' hr' hd'
  exact ⟨r, hr, hd0, fun slot h => hu slot (hu' slot h)⟩

theorem noOrphanX_keep {s s' : State} {ex : Option (Nat × Nat)} (hk : Keep s s') (h : NoOrphanX s ex) : NoOrphanX s' ex := by
  intro mi r' hr' hd' slot hu hex
  obtain ⟨r, hr, hd, hu0⟩ := hk.msgs mi r' hr' hd'
  exact hk.pend mi slot (h mi r hr hd slot (hu0 slot hu) hex)

theorem keep_of_msgs (s s' : State) (hm : s'.msgs = s.msgs) (hp : ∀ mi slot, Pending s (.frag mi slot) → Pending s' (.frag mi slot)) :
    Keep s s' :=
  ⟨fun mi r' h hd => ⟨r', by rw [← hm]; exact h, hd, fun _ hu => hu⟩, hp⟩

theorem keep_of_eq (s s' : State) (hm : s'.msgs = s.msgs) (hb : s'.backends = s.backends) : Keep s s' :=
  keep_of_msgs s s' hm fun _ _ ⟨i, b, h1, h2, h3⟩ => ⟨i, b, hb ▸ h1, h2, h3⟩

theorem keep_fail (s : State) (w : String) : Keep s (s.fail w) := keep_of_eq _ _ (same_fail s w).2 (backends_fail s w)
theorem keep_updClient (s : State) (c : Nat) (f : Client → Client) : Keep s (s.updClient c f) := keep_of_eq _ _ rfl rfl
theorem keep_flushClient (s : State) (c : Nat) : Keep s (flushClient s c) := keep_of_eq _ _ (msgs_flushClient s c) (cs_flushClient s c).backends
theorem keep_dropTimeout (s : State) (f : FragRef) : Keep s (dropTimeout s f) := keep_of_eq _ _ rfl rfl

theorem keep_appendDone (s : State) (r : Req) (hd : r.m.done = true) : Keep s { s with msgs := s.msgs ++ [r] } := by
  refine ⟨?_, fun mi slot h => h⟩
  exact forall_append_new s.msgs r (fun _ r' h hd' => ⟨r', h, hd', fun _ hu => hu⟩) fun hd' => absurd hd (by rw [hd']; nofun)

theorem keep_answerLocal (s : State) (c : Nat) (m : MMsg) (out : Bytes) : Keep s (answerLocal s c m out) :=
  answerLocal_cases s c m out (Keep.refl s) (fun _ _ _ => keep_updClient s c _)
    fun _ _ _ => (keep_appendDone s _ rfl).trans (keep_updClient _ c _)

theorem keep_updReq (s : State) (mi : Nat) (f : Req → Req)
    (hf : ∀ r, s.msgs[mi]? = some r → (f r).m.done = false → r.m.done = false ∧ ∀ slot, Undone (f r).m slot → Undone r.m slot) :
    Keep s (s.updReq mi f) := by
  refine ⟨?_, fun _ _ h => h⟩
  exact forall_setAt s.msgs mi f (fun _ y _ hy hd => ⟨y, hy, hd, fun _ hu => hu⟩) fun r hr hd => ⟨r, hr, hf r hr hd⟩

theorem pending_mono (s s' : State) (f : FragRef)
    (h : ∀ (i : Nat) (b : Backend), s.backends[i]? = some b → b.opened = true → ∃ b', s'.backends[i]? = some b' ∧ b'.opened = true ∧
      ∀ x, x ∈ b.inQ ++ b.outQ.map (·.ref) → x ∈ b'.inQ ++ b'.outQ.map (·.ref))
    (hp : Pending s f) : Pending s' f := by
  obtain ⟨i, b, h1, h2, h3⟩ := hp
  obtain ⟨b', h1', h2', h3'⟩ := h i b h1 h2
  exact ⟨i, b', h1', h2', h3' f h3⟩

theorem keep_updBackend (s : State) (b : Nat) (f : Backend → Backend)
    (hf : ∀ x, x.opened = true → (f x).opened = true ∧ ∀ y, y ∈ x.inQ ++ x.outQ.map (·.ref) → y ∈ (f x).inQ ++ (f x).outQ.map (·.ref)) :
    Keep s (s.updBackend b f) := by
  refine keep_of_msgs s (s.updBackend b f) rfl fun mi slot => pending_mono _ _ _ fun i x hx ho => ?_
  exact (exists_setAt (P := fun _ (x x' : Backend) => x.opened = true → x'.opened = true ∧
      ∀ y, y ∈ x.inQ ++ x.outQ.map (·.ref) → y ∈ x'.inQ ++ x'.outQ.map (·.ref)) s.backends b f
    (fun _ _ _ ho => ⟨ho, fun _ h => h⟩) (fun x _ => hf x) i x hx).imp fun _ h => ⟨h.1, h.2 ho⟩

theorem keep_enqueueOut (s : State) (b : Nat) (e : QEntry) : Keep s (enqueueOut s b e) := by
  unfold enqueueOut
  refine Keep.trans (b := s.updBackend b (fun x => { x with outQ := x.outQ ++ [e], enq := x.enq ++ [e] }))
    (keep_updBackend s b _ (fun x ho => ⟨ho, fun y hy => ?_⟩)) (keep_of_eq _ _ rfl rfl)
  simp only [List.map_append, List.mem_append] at hy ⊢
  rcases hy with h | h
  · exact Or.inl h
  · exact Or.inr (Or.inl h)

theorem keep_appendBackend (s : State) (x : Backend) (ps : List Pool) : Keep s { s with backends := s.backends ++ [x], pools := ps } :=
  keep_of_msgs s _ rfl fun _ _ => pending_mono _ _ _ fun i b hb ho =>
    ⟨b, getElem?_append_old _ x b i hb, ho, fun _ h => h⟩

theorem keep_poolGet (S : Strs) (cfg : Cfg) (s : State) (p : Nat) : Keep s (poolGet S cfg s p).1 :=
  poolGet_rel S cfg s p (keep_fail s _) (fun _ => keep_of_eq _ _ rfl rfl) (fun _ _ _ => keep_appendBackend s _ _)

theorem keep_writeSignal (S : Strs) (cfg : Cfg) (s : State) (b : Nat) : Keep s (writeSignal S cfg s b) := by
  refine writeSignal_cases S cfg s b (Keep.refl s) fun _ _ _ _ => Keep.trans ?_ (keep_of_eq (s.updBackend b _) _ rfl rfl)
  exact keep_updBackend s b _ fun x ho => ⟨ho, fun y hy => by simpa using hy⟩

def OpenMono (s s' : State) : Prop :=
  ∀ (i : Nat) (b : Backend), s.backends[i]? = some b → b.opened = true → ∃ b', s'.backends[i]? = some b' ∧ b'.opened = true

theorem OpenMono.refl (s : State) : OpenMono s s := fun _ b h ho => ⟨b, h, ho⟩
theorem OpenMono.trans {a b c : State} (h1 : OpenMono a b) (h2 : OpenMono b c) : OpenMono a c := by
  intro i x hx ho
  obtain ⟨x', hx', ho'⟩ := h1 i x hx ho
  exact h2 i x' hx' ho'
theorem openMono_of_eq (s s' : State) (h : s'.backends = s.backends) : OpenMono s s' := by
  intro i b hb ho; exact ⟨b, by rw [h]; exact hb, ho⟩

theorem openMono_updBackend (s : State) (b : Nat) (f : Backend → Backend) (hf : ∀ x, x.opened = true → (f x).opened = true) :
    OpenMono s (s.updBackend b f) := fun i x hx ho =>
  (exists_setAt (P := fun _ (x x' : Backend) => x.opened = true → x'.opened = true) s.backends b f (fun _ _ _ => id) (fun x _ => hf x)
    i x hx).imp fun _ h => ⟨h.1, h.2 ho⟩

theorem openMono_enqueueOut (s : State) (b : Nat) (e : QEntry) : OpenMono s (enqueueOut s b e) := by
  unfold enqueueOut
  refine OpenMono.trans ?_ (openMono_of_eq (s.updBackend b _) _ rfl)
  exact openMono_updBackend s b _ (fun _ h => h)

theorem openMono_poolGet (S : Strs) (cfg : Cfg) (s : State) (p : Nat) : OpenMono s (poolGet S cfg s p).1 :=
  poolGet_rel S cfg s p (openMono_of_eq _ _ (backends_fail s _)) (fun _ => openMono_of_eq _ _ rfl)
    (fun _ _ _ i b hb ho => ⟨b, getElem?_append_old _ _ b i hb, ho⟩)

theorem keep_resolve (T : Tables) (S : Strs) (cfg : Cfg) (ty : Nat) (s : State) (vs : List (Nat × Bytes)) :
    Keep s (resolve T S cfg ty s vs []).1 ∧
    ∀ t ∈ (resolve T S cfg ty s vs []).2.1, ∃ b, (resolve T S cfg ty s vs []).1.backends[t.2]? = some b ∧ b.opened = true := by
  refine resolve_ind (Q := fun s' acc' => Keep s s' ∧ ∀ t ∈ acc', ∃ b, s'.backends[t.2]? = some b ∧ b.opened = true)
    T S cfg ty (fun s' acc' w h => ⟨h.1.trans (keep_fail s' w), fun t ht => ?_⟩)
    (fun s' acc' slot addr rs p h _ _ hp => ⟨h.1.trans (keep_poolGet S cfg s' p), fun t ht => ?_⟩) vs s [] ⟨Keep.refl s, nofun⟩
  · obtain ⟨b, hb, ho⟩ := h.2 t ht
    exact ⟨b, by rw [backends_fail s' w]; exact hb, ho⟩
  · rcases List.mem_append.mp ht with ht | ht
    · obtain ⟨b, hb, ho⟩ := h.2 t ht
      exact openMono_poolGet S cfg s' p t.2 b hb ho
    · obtain ⟨pool, hpool, _⟩ := findPool_spec s'.pools addr p hp
      rw [List.mem_singleton.mp ht]
      exact poolGet_open S cfg s' p pool hpool

theorem pending_enqueueOut (s : State) (b : Nat) (e : QEntry) (x : Backend) (hx : s.backends[b]? = some x) (ho : x.opened = true) :
    Pending (enqueueOut s b e) e.ref := by
  refine ⟨b, _, backend_upd_same s b _ x hx, ho, ?_⟩
  simp

theorem foldl_enqueue_pending (targets : List (Nat × Nat)) (g : Nat × Nat → QEntry) (s : State)
    (hopen : ∀ t ∈ targets, ∃ b, s.backends[t.2]? = some b ∧ b.opened = true) :
    Keep s (targets.foldl (fun st t => enqueueOut st t.2 (g t)) s) ∧
    ∀ t ∈ targets, ∀ mi slot, (g t).ref = .frag mi slot →
      Pending (targets.foldl (fun st t => enqueueOut st t.2 (g t)) s) (.frag mi slot) := by
  induction targets generalizing s with
  | nil => exact ⟨Keep.refl s, nofun⟩
  | cons t ts ih =>
    rw [List.foldl_cons]
    obtain ⟨hk, hp⟩ := ih (enqueueOut s t.2 (g t)) fun t' ht' =>
      (hopen t' (List.mem_cons_of_mem _ ht')).elim fun b ⟨hb, ho⟩ => openMono_enqueueOut s t.2 (g t) t'.2 b hb ho
    refine ⟨(keep_enqueueOut s t.2 (g t)).trans hk, fun t' ht' mi slot href => ?_⟩
    rcases List.mem_cons.mp ht' with rfl | h
    · obtain ⟨b, hb, ho⟩ := hopen t' List.mem_cons_self
      exact hk.pend mi slot (href ▸ pending_enqueueOut s t'.2 (g t') b hb ho)
    · exact hp t' h mi slot href

/-- a flagged state is outside the modelled domain; otherwise no fragment is orphaned -/
def GoodP (s : State) : Prop := s.flag.isSome = true ∨ NoOrphan s

theorem noOrphan_accepted (s1 : State) (c : Nat) (cm : CDecode.CMsg) (targets : List (Nat × Nat)) (h1 : NoOrphan s1)
    (hopen : ∀ t ∈ targets, ∃ b, s1.backends[t.2]? = some b ∧ b.opened = true) : NoOrphan (accepted s1 c cm targets) := by
  refine accepted_cases s1 c cm targets (fun _ => ?_) fun cl _ => ?_
  · exact noOrphanX_keep (foldl_enqueue_pending targets _ s1 hopen).1 h1
  · obtain ⟨hkf, hpf⟩ := foldl_enqueue_pending targets (fwdEntry cm c s1.msgs.length cl.decoded) (pushReq s1 c _) hopen
    intro mi r0 hr0
    rw [(foldl_enqueue_same targets _ _).2] at hr0
    revert mi r0
    -- an old request, or the new one
    refine forall_append_new (P := fun mi r0 => r0.m.done = false → ∀ slot, Undone r0.m slot → _ → Pending _ (.frag mi slot))
      s1.msgs _ (fun mi r0 hr hd slot hu _ => ?_) fun _ slot hu _ => ?_
    · exact hkf.pend mi slot (h1 mi r0 hr hd slot hu nofun)
    · obtain ⟨f, hf, _⟩ := hu
      obtain ⟨t, ht, hgt⟩ := List.mem_filterMap.mp (getFrag_some_mem _ slot f hf).1
      rw [← (getFrag_some_mem _ slot f hf).2, (getFrag_some_mem _ t.1 f hgt).2]
      exact hpf t ht _ _ rfl

theorem noOrphan_forward (T : Tables) (S : Strs) (cfg : Cfg) (s : State) (c : Nat) (cm : CDecode.CMsg) (ch : ReqChoice)
    (h : NoOrphan s) : NoOrphan (forward T S cfg s c cm ch) := by
  obtain ⟨hk, hopen⟩ := keep_resolve T S cfg cm.type s ch.visit
  have h1 := noOrphanX_keep hk h
  exact forward_cases T S cfg s c cm ch (noOrphanX_keep (keep_fail s _) h)
    (fun e => noOrphanX_keep (keep_answerLocal _ c _ e) h1) (fun _ => h1)
    (noOrphanX_keep (keep_fail _ _) h1) (noOrphan_accepted _ c cm _ h1 hopen)

theorem noOrphan_onRequest (T : Tables) (S : Strs) (cfg : Cfg) (s : State) (c : Nat) (cm : CDecode.CMsg) (ch : ReqChoice)
    (h : NoOrphan s) : NoOrphan (onRequest T S cfg s c cm ch).1 :=
  onRequest_cases T S cfg s c cm ch (fun _ => noOrphanX_keep (keep_answerLocal s c _ _) h)
    (noOrphan_forward T S cfg s c cm ch h)

/-- the exception can be dropped once the excepted fragment is pending again (or not unanswered any more) -/
theorem noOrphan_of_x (s : State) (mi slot : Nat) (h : NoOrphanX s (some (mi, slot)))
    (hx : ∀ r, s.msgs[mi]? = some r → r.m.done = false → Undone r.m slot → Pending s (.frag mi slot)) : NoOrphan s := by
  intro mj r hr hd slot' hu _
  by_cases he : (mj, slot') = (mi, slot)
  · injection he with h1 h2; subst h1; subst h2
    exact hx r hr hd hu
  · exact h mj r hr hd slot' hu (fun e => he (by injection e with e; exact e.symm))

/-- request `mi` has just been completed: none of its fragments is unanswered any more -/
theorem noOrphan_updReq_done (s : State) (mi slot : Nat) (f : Req → Req) (r : Req) (hr : s.msgs[mi]? = some r)
    (hd : (f r).m.done = true) (h : NoOrphanX s (some (mi, slot))) : NoOrphan (s.updReq mi f) := by
  have hnd : ∀ r0, s.msgs[mi]? = some r0 → (f r0).m.done ≠ false := fun r0 hr0 => by
    cases hr.symm.trans hr0; rw [hd]; nofun
  refine noOrphan_of_x _ mi slot (noOrphanX_keep (keep_updReq _ _ _ fun r0 hr0 hd0 => absurd hd0 (hnd r0 hr0)) h)
    fun r0 hr0 hd0 _ => ?_
  cases (msgs_upd_same s mi f r hr).symm.trans hr0
  exact absurd hd0 (hnd r hr)

theorem goodP_onMoved (S : Strs) (cfg : Cfg) (s : State) (mi slot : Nat) (isAsk : Bool) (addr : Bytes)
    (h : NoOrphanX s (some (mi, slot))) : GoodP (onMoved S cfg s mi slot isAsk addr) := by
  have h1 : NoOrphanX (bumpRed s mi slot) (some (mi, slot)) :=
    noOrphanX_keep (keep_updReq _ _ _ fun r0 _ hd =>
      ⟨hd, undone_of_setFrag r0.m slot (fun f => { f with redirects := f.redirects + 1 }) fun _ => ⟨rfl, id⟩⟩) h
  refine onMoved_cases S cfg s mi slot isAsk addr (fun _ => .inl (fail_flag s _)) (fun r e hr => .inr ?_)
    (fun r p _ hp _ => .inr ?_)
  · exact noOrphanX_keep (keep_flushClient _ _)
      (noOrphan_updReq_done _ mi slot _ _ (msgs_bumpRed s mi slot r hr) rfl h1)
  · -- the fragment is pending again, on the connection `Pool.Get` returned
    obtain ⟨pool, hpool, _⟩ := findPool_spec _ addr p hp
    obtain ⟨b, hb, ho⟩ := poolGet_open S cfg (bumpRed s mi slot) p pool hpool
    refine resendTo_cases (R := fun a b => Keep a b ∧ OpenMono a b) S cfg _ mi slot isAsk p (fun s => ⟨.refl s, .refl s⟩)
      (fun st b => ⟨keep_enqueueOut st b _, openMono_enqueueOut st b _⟩) fun st ⟨hk, hom⟩ => ?_
    obtain ⟨b', hb', ho'⟩ := hom _ b hb ho
    exact noOrphan_of_x _ mi slot
      (noOrphanX_keep (((keep_poolGet S cfg _ p).trans hk).trans (keep_enqueueOut _ _ _)) h1)
      fun _ _ _ _ => pending_enqueueOut st _ { ref := .frag mi slot, bytes := _ } b' hb' ho'

theorem goodP_onFragReply (T : Tables) (S : Strs) (cfg : Cfg) (slotFn : Bytes → Nat) (s : State) (mi slot rtype : Nat)
    (body : Bytes) (h : NoOrphanX s (some (mi, slot))) : GoodP (onFragReply T S cfg slotFn s mi slot rtype body).1 := by
  have hok := onReply_ok T S.merge slotFn cfg.limit
  -- any signal but ready: `done` is kept, and what is undone afterwards was undone before
  have hkeepx : ∀ r m' sig, s.msgs[mi]? = some r → onReply T S.merge slotFn cfg.limit r.m slot rtype body = (m', sig) →
      sig ≠ .ready → NoOrphanX (s.updReq mi fun r => { r with m := m' }) (some (mi, slot)) := fun r m' sig hr hres hs =>
    noOrphanX_keep (keep_updReq _ _ _ fun r0 hr0 hd => by
      cases hr.symm.trans hr0
      have hk := hres ▸ hok r.m slot rtype body
      exact ⟨(hk.keep hs).symm.trans hd, undone_of_advances hk.adv⟩) h
  -- the fragment that was answered is not unanswered any more
  have hdrop : ∀ r m' sig, s.msgs[mi]? = some r → onReply T S.merge slotFn cfg.limit r.m slot rtype body = (m', sig) →
      sig ≠ .ready → (∀ f, getFrag m' slot = some f → f.done = true) →
      NoOrphan (s.updReq mi fun r => { r with m := m' }) := fun r m' sig hr hres hs hd =>
    noOrphan_of_x _ mi slot (hkeepx r m' sig hr hres hs) fun r0 hr0 _ hu => by
      cases (msgs_upd_same s mi _ r hr).symm.trans hr0
      obtain ⟨f, hf, hnd⟩ := hu
      rw [hd f hf] at hnd; cases hnd
  refine onFragReply_cases T S cfg slotFn s mi slot rtype body (.inl (fail_flag s _)) (fun _ _ _ _ _ _ => .inl (fail_flag _ _))
    (fun r m' sig hr hres hs => .inr ?_) (fun r m' hr hres => goodP_onMoved S cfg _ mi slot _ _ (hkeepx r m' _ hr hres nofun))
    (fun r m' hr hres => .inr ?_)
  · have hk := hres ▸ hok r.m slot rtype body
    rcases hs with rfl | rfl
    · obtain ⟨rfl, hd⟩ := hk.dropped rfl
      exact hdrop r _ _ hr hres nofun hd
    · exact hdrop r m' _ hr hres nofun (hk.waiting rfl)
  · exact noOrphanX_keep (keep_of_eq _ _ (msgs_deliver _ r.owner) (cs_deliver _ _).backends)
      (noOrphan_updReq_done s mi slot _ r hr ((hres ▸ hok r.m slot rtype body).ready rfl) h)

theorem pop_pending (s : State) (b : Nat) (x : Backend) (f : FragRef) (inQ' : List FragRef)
    (hx : s.backends[b]? = some x) (hq : x.inQ = f :: inQ') (g : FragRef) (hne : g ≠ f) (hp : Pending s g) :
    Pending (dropTimeout (s.updBackend b (fun x => { x with inQ := inQ' })) f) g := by
  obtain ⟨i, y, hy, ho, hmem⟩ := hp
  by_cases hib : i = b
  · subst hib
    refine ⟨i, { y with inQ := inQ' }, backend_upd_same s i _ y hy, ho, ?_⟩
    rw [hx] at hy; cases hy
    rw [hq] at hmem
    simp only [List.cons_append, List.mem_cons] at hmem
    rcases hmem with h | h
    · exact absurd h hne
    · exact h
  · exact ⟨i, y, by show (s.updBackend b _).backends[i]? = _; rw [backend_upd_other s b i _ hib]; exact hy, ho, hmem⟩

/-- the head of an awaiting-reply queue is taken off: no orphan but, if it is a fragment, that one -/
theorem pop_noOrphanX (s : State) (b : Nat) (x : Backend) (f : FragRef) (inQ' : List FragRef) (ex : Option (Nat × Nat))
    (hx : s.backends[b]? = some x) (hq : x.inQ = f :: inQ') (hex : ∀ mi slot, f = .frag mi slot → ex = some (mi, slot))
    (h : NoOrphan s) : NoOrphanX (dropTimeout (s.updBackend b (fun x => { x with inQ := inQ' })) f) ex :=
  fun mj r hr hd slot' hu hne =>
    pop_pending s b x f inQ' hx hq _ (fun he => hne (hex mj slot' he.symm)) (h mj r hr hd slot' hu nofun)

/-! ### closing a connection -/

/-- completed because its backend connection was lost: done, answered with the error, every fragment done -/
def LostOut (S : Strs) (r : Req) : Prop :=
  r.m.done = true ∧ r.m.rspBody = S.errBackendClosed ∧ ∀ x ∈ r.m.frags, x.done = true

theorem closeScan_fails (S : Strs) (s : State) (l refs : List FragRef) (mi : Nat) (r : Req) (hr : s.msgs[mi]? = some r)
    (h : ∃ slot fr, FragRef.frag mi slot ∈ l ∧ getFrag r.m slot = some fr ∧ fr.done = false) :
    ∃ r', (refs.foldl dropTimeout (l.foldl (failStep (lostMsg S)) s)).msgs[mi]? = some r' ∧ LostOut S r' ∧
      r'.owner = r.owner ∧ r'.num = r.num := by
  obtain ⟨slot, hs⟩ := (foldl_failStep (lostMsg S) (fun m slot => failedMsg_frags_done _ m slot) l s mi r hr).2 h
  exact ⟨{ r with m := lostMsg S r.m slot r.m }, by rw [(foldl_dropTimeout_same _ _).2]; exact hs,
    ⟨rfl, rfl, failedMsg_frags_done _ r.m slot⟩, rfl, rfl⟩

/-! ### every step keeps `NoOrphan` -/

theorem keep_failStep (g : MMsg → Nat → MMsg → MMsg) (hg : ∀ m slot m', (g m slot m').done = true) (s : State) (f : FragRef) :
    Keep s (failStep g s f) :=
  failStep_cases g s f (Keep.refl s) fun _ _ _ _ _ =>
    (keep_updReq _ _ _ fun r0 _ hd => absurd hd (by simp [hg])).trans (keep_flushClient _ _)

theorem keep_foldl_dropTimeout (refs : List FragRef) (s : State) : Keep s (refs.foldl dropTimeout s) :=
  foldl_rel Keep.refl Keep.trans keep_dropTimeout refs s

theorem noOrphan_backendClose (S : Strs) (s : State) (b : Nat) (h : NoOrphan s) : NoOrphan (backendClose S s b) := by
  refine backendClose_cases S s b h fun x hx ho => ?_
  intro mi r' hr' hd' slot hu _
  have hk : Keep s (x.inQ.foldl dropTimeout ((x.inQ ++ x.outQ.map (·.ref)).foldl (failStep (lostMsg S)) s)) :=
    (foldl_rel Keep.refl Keep.trans (keep_failStep (lostMsg S) (fun _ _ _ => rfl)) _ s).trans
      (keep_foldl_dropTimeout _ _)
  obtain ⟨r, hr, hd, hu0⟩ := hk.msgs mi r' hr' hd'
  obtain ⟨i, y, hy, hyo, hmem⟩ := h mi r hr hd slot (hu0 slot hu) nofun
  by_cases hib : i = b
  · -- the fragment waited on the lost connection: its request was failed
    subst hib
    cases hx.symm.trans hy
    obtain ⟨f, hf, hnd⟩ := hu0 slot hu
    obtain ⟨r'', hr'', hlost, _, _⟩ := closeScan_fails S s _ x.inQ mi r hr ⟨slot, f, hmem, hf, hnd⟩
    cases hr''.symm.trans hr'
    rw [hlost.1] at hd'; cases hd'
  · exact ⟨i, y, by rw [backend_upd_other _ b i _ hib, (cs_closeScan S s _ _).backends]; exact hy, hyo, hmem⟩

theorem keep_expire (S : Strs) (s : State) (n : Nat) : Keep s (expire S s n) := by
  rw [expire_eq]
  exact (foldl_rel Keep.refl Keep.trans (keep_failStep (timedOutMsg S) (fun _ _ _ => rfl)) _ s).trans
    (keep_of_eq _ _ rfl rfl)

theorem goodP_micro (T : Tables) (S : Strs) (cfg : Cfg) (slotFn : Bytes → Nat) (s s' : State) (hf : s.flag = none)
    (hm : Micro T S cfg slotFn s s') (hg : GoodP s) : GoodP s' := by
  have h : NoOrphan s := hg.resolve_left (by simp [hf])
  have keep {s'} (hk : Keep s s') : GoodP s' := .inr (noOrphanX_keep hk h)
  have idle : ∀ x : Backend, x.opened = true → x.opened = true ∧ ∀ y, y ∈ x.inQ ++ x.outQ.map (·.ref) →
      y ∈ x.inQ ++ x.outQ.map (·.ref) := fun _ ho => ⟨ho, fun _ hy => hy⟩
  cases hm with
  | connect a => exact keep (keep_of_eq s { s with clients := _ } rfl rfl)
  | fail w => exact .inl (fail_flag s w)
  | closeClient c => exact keep (keep_of_eq _ _ rfl rfl)
  | leftover c v => exact keep (keep_updClient s c _)
  | closing c => exact keep (keep_updClient s c _)
  | request c cm ch cl hc ho => exact .inr (noOrphan_onRequest T S cfg s c cm ch h)
  | leftoverB b v => exact keep (keep_updBackend s b _ idle)
  | initDone b => exact keep (keep_updBackend s b _ idle)
  | pop b x f inQ' hx hq hnf => exact .inr (pop_noOrphanX s b x f inQ' none hx hq (fun mi slot e => absurd e (hnf mi slot)) h)
  | reply b x mi slot inQ' rtype body hx hq =>
    exact goodP_onFragReply T S cfg slotFn _ mi slot rtype body (pop_noOrphanX s b x _ inQ' _ hx hq (fun _ _ e => by cases e; rfl) h)
  | writeSignal b => exact keep (keep_writeSignal S cfg s b)
  | backendClose b => exact .inr (noOrphan_backendClose S s b h)
  | clearTasks => exact keep (keep_of_eq s { s with tasks := _ } rfl rfl)
  | expire n => exact keep (keep_expire S s n)
  | poolRemove p =>
    exact keep (keep_of_eq _ _ (same_poolRemove s p).2 (backends_poolRemove s p))

theorem goodP_run (T : Tables) (S : Strs) (cfg : Cfg) (slotFn : Bytes → Nat) (es : List Event) (s : State) (h : GoodP s) :
    GoodP (run T S cfg slotFn s es) :=
  (steps_run es s).inv (goodP_micro T S cfg slotFn) h

theorem goodP_init (S : Strs) (cfg : Cfg) (pools : List (Bytes × Bool)) (table : List (Nat × Nat × RSet)) :
    GoodP (init S cfg pools table) :=
  .inr (init_ind S cfg pools table (fun _ _ hr => nomatch hr) fun s p => noOrphanX_keep (keep_poolGet S cfg s p))

end RcVerif.Lemmas.SimPend
