import RcVerif.Model.ConnIn
import RcVerif.Lemmas.ElasticBuf
/-
  `conn.Peek` / `conn.Discard` / the end-of-read store over the pooled inbound ring present exactly
  "leftover ++ fresh bytes" and drop exactly the consumed prefix (helper lemmas; the property theorems are in
  `Props/C08Conn.lean`).
-/
namespace RcVerif.Lemmas.ConnIn
open RcVerif RcVerif.Elastic RcVerif.ConnIn RcVerif.Lemmas.ElasticBuf

theorem view_length (c : InConn) : c.view.length = c.inb.content.length + c.buf.length := List.length_append

/-- how `conn.Peek` glues the two slices peeked from the ring (`h ++ t`, the first `k` bytes of the leftover `A`)
    to the fresh bytes `B` -/
theorem glue (A B h t : Bytes) (k : Nat) (hp : h ++ t = A.take k) :
    (if h.length ≥ k then some (h.take k) else if A.length ≥ k then some (h ++ t)
      else some (h ++ t ++ B.take (k - A.length))) = some ((A ++ B).take k) := by
  rw [List.take_append]
  split
  · -- the head alone has `k` bytes: so has `A`
    rename_i h1
    have hk : k ≤ A.length :=
      Nat.le_trans h1 (Nat.le_trans (List.length_append ▸ Nat.le_add_right ..) (hp ▸ List.length_take_le' ..))
    rw [Nat.sub_eq_zero_of_le hk, List.take_zero, List.append_nil, ← List.take_append_of_le_length (l₂ := t) h1, hp,
      List.take_take, Nat.min_self]
  · split
    · rw [Nat.sub_eq_zero_of_le ‹_›, List.take_zero, List.append_nil, hp]
    · rw [hp]

/-- `Peek(n)` for `n` up to what is buffered: the first `n` bytes of leftover ++ fresh (everything for `n ≤ 0`) -/
theorem peek_spec (c : InConn) (he : EInv c.inb) (n : Int) (hn : n ≤ (c.view.length : Int)) :
    c.peek n = some (if n ≤ 0 then c.view else c.view.take n.toNat) := by
  -- the count `Peek` works with
  have hgoal : (if n ≤ 0 then c.view else c.view.take n.toNat) =
      c.view.take (if n ≤ 0 then (c.view.length : Int) else n).toNat := by
    split
    · rw [Int.toNat_natCast, List.take_length]
    · rfl
  -- it is `0` only when nothing is buffered at all
  have h0 : (if n ≤ 0 then (c.view.length : Int) else n) ≤ 0 → c.inb.content = [] := fun h => by
    refine List.eq_nil_of_length_eq_zero ?_
    split at h
    · exact Nat.eq_zero_of_add_eq_zero_right ((view_length c).symm.trans (Nat.le_zero.mp (Int.ofNat_le.mp h)))
    · exact absurd h ‹_›
  unfold InConn.peek
  dsimp only
  rw [ering_buffered c.inb he, ← view_length, if_neg (Int.not_lt.mpr hn), hgoal]
  generalize (if n ≤ 0 then (c.view.length : Int) else n) = n' at h0
  by_cases hem : c.inb.isEmpty = true
  · rw [if_pos hem, InConn.view, ering_isEmpty_content c.inb hem]; rfl
  · rw [if_neg hem]
    refine glue _ _ _ _ _ ((ering_peek_spec c.inb he n').trans ?_)
    split
    · rw [h0 ‹_›]; exact List.take_nil.symm
    · rfl

/-- `Discard(n)` for `0 < n ≤` what is buffered: exactly the first `n` bytes are dropped -/
theorem discard_spec (pool : Pool) (c : InConn) (hp : PInv pool) (he : EInv c.inb) (n : Nat) (h0 : 0 < n)
    (hn : n ≤ c.view.length) :
    PInv (c.discard pool (n : Int)).1 ∧ EInv (c.discard pool (n : Int)).2.1.inb ∧
    (c.discard pool (n : Int)).2.1.view = c.view.drop n ∧
    (c.buf = [] → (c.discard pool (n : Int)).2.1.buf = []) := by
  unfold InConn.discard
  dsimp only
  rw [ering_buffered c.inb he, ← view_length,
    if_neg (not_or.mpr ⟨Int.not_lt.mpr (Int.ofNat_le.mpr hn), Int.not_le.mpr (Int.natCast_pos.mpr h0)⟩)]
  simp only [Int.toNat_natCast, InConn.view]
  by_cases hem : c.inb.isEmpty = true
  · rw [if_pos hem, ering_isEmpty_content c.inb hem]
    exact ⟨hp, he, rfl, fun hbuf => (congrArg (List.drop _) hbuf).trans List.drop_nil⟩
  · rw [if_neg hem]
    obtain ⟨d1, d2, d3, d4⟩ := ering_discard_spec pool c.inb hp he (n : Int)
    rw [Int.toNat_natCast] at d3 d4
    rw [d4]
    split
    · rename_i hd
      have hlt : n ≤ c.inb.content.length :=
        Nat.le_of_not_lt fun hlt => Nat.lt_irrefl _ (Nat.min_eq_right (Nat.le_of_lt hlt) ▸ hd)
      exact ⟨d1, d2, by rw [d3, List.drop_append_of_le_length hlt], id⟩
    · exact ⟨d1, d2, by rw [d3, List.drop_append], fun hbuf => (congrArg (List.drop _) hbuf).trans List.drop_nil⟩

/-- the end of a read event keeps the unconsumed bytes, now all in the ring -/
theorem store_spec (pool : Pool) (c : InConn) (hp : PInv pool) (he : EInv c.inb) :
    PInv (c.store pool).1 ∧ EInv (c.store pool).2.inb ∧ (c.store pool).2.view = c.view ∧ (c.store pool).2.buf = [] := by
  obtain ⟨w1, w2, w3⟩ := ering_write_spec pool c.inb hp he c.buf
  unfold InConn.store
  exact ⟨w1, w2, by simp [InConn.view, w3], rfl⟩

/-- `Peek(n)` beyond what is buffered is refused (`io.ErrShortBuffer`), and only then -/
theorem peek_none_iff (c : InConn) (he : EInv c.inb) (n : Int) :
    c.peek n = none ↔ n > (c.view.length : Int) := by
  refine ⟨fun h => Int.not_le.mp fun hn => (nomatch (peek_spec c he n hn).symm.trans h), fun h => ?_⟩
  unfold InConn.peek
  dsimp only
  rw [ering_buffered c.inb he, ← view_length, if_pos h]

/-- `Discard(n)` outside `1 .. buffered` (the branch `resetBuffer`): everything is dropped, the ring reset, and
    the number of bytes that were buffered is returned -/
theorem discard_reset_spec (pool : Pool) (c : InConn) (hp : PInv pool) (he : EInv c.inb) (n : Int)
    (h : n ≤ 0 ∨ n > (c.view.length : Int)) :
    PInv (c.discard pool n).1 ∧ EInv (c.discard pool n).2.1.inb ∧ (c.discard pool n).2.1.view = [] ∧
    (c.discard pool n).2.2 = c.view.length := by
  obtain ⟨r1, r2⟩ := ering_reset_spec c.inb he
  unfold InConn.discard
  dsimp only
  rw [ering_buffered c.inb he, ← view_length, if_pos h.symm]
  exact ⟨hp, r1, congrArg (· ++ []) r2, rfl⟩

end RcVerif.Lemmas.ConnIn
