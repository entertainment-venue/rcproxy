import RcVerif.Model.Elastic
import RcVerif.Lemmas.RingBuf
import RcVerif.Lemmas.LListBuf
/-
  `elastic.RingBuffer` (pooled ring) and `elastic.Buffer` (ring, then list) refine a FIFO byte queue; rings in the
  pool are always empty, so a recycled ring never brings stale bytes with it.
-/
namespace RcVerif.Lemmas.ElasticBuf
open RcVerif RcVerif.Elastic RcVerif.Lemmas.RingBuf RcVerif.Lemmas.LListBuf
open RcVerif.Ring (Ring)
open RcVerif.LList (LL)

structure PInv (p : Pool) : Prop where
  priv : ∀ r, p.priv = some r → Inv r ∧ Ring.content r = []
  shared : ∀ r ∈ p.shared, Inv r ∧ Ring.content r = []

def EInv (e : ERing) : Prop := ∀ r, e.rb = some r → Inv r

theorem pinv_empty : PInv {} := ⟨fun _ h => (nomatch h), fun _ h => (nomatch h)⟩

theorem einv_empty : EInv {} := fun _ h => nomatch h

theorem einv_some {r : Ring} (h : Inv r) : EInv { rb := some r } := fun _ h' => Option.some.inj h' ▸ h

theorem pool_get_spec (p : Pool) (h : PInv p) : PInv p.get.1 ∧ Inv p.get.2 ∧ Ring.content p.get.2 = [] := by
  obtain ⟨priv, shared⟩ := p
  cases priv with
  | some r => exact ⟨⟨fun _ h' => (nomatch h'), h.shared⟩, h.priv r rfl⟩
  | none =>
    cases shared with
    | nil => exact ⟨h, inv_new 0⟩
    | cons r rest => exact ⟨⟨h.priv, fun r' hm => h.shared r' (List.mem_cons_of_mem _ hm)⟩, h.shared r List.mem_cons_self⟩

theorem pool_put_spec (p : Pool) (h : PInv p) (r : Ring) (hr : Inv r) : PInv (p.put r) := by
  have hres : Inv (Ring.reset r) ∧ Ring.content (Ring.reset r) = [] := ⟨inv_reset r hr, content_reset r⟩
  obtain ⟨priv, shared⟩ := p
  cases priv with
  | none => exact ⟨fun _ h' => Option.some.inj h' ▸ hres, h.shared⟩
  | some r0 => exact ⟨h.priv, fun r' hm => (List.mem_cons.mp hm).elim (· ▸ hres) (h.shared r')⟩

/-! ### the pooled ring: absent, or some ring -/

theorem ering_done_spec (p : Pool) (e : ERing) (hp : PInv p) (he : EInv e) :
    PInv (e.done p).1 ∧ EInv (e.done p).2 ∧ (e.done p).2.content = e.content := by
  obtain ⟨_ | r⟩ := e
  · exact ⟨hp, he, rfl⟩
  · unfold ERing.done
    dsimp only
    split
    · exact ⟨pool_put_spec p hp r (he r rfl), einv_empty, ((isEmpty_iff r (he r rfl)).mp ‹_›).symm⟩
    · exact ⟨hp, he, rfl⟩

theorem ering_release_spec (p : Pool) (e : ERing) (hp : PInv p) (he : EInv e) :
    PInv (e.release p).1 ∧ EInv (e.release p).2 ∧ (e.release p).2.content = [] := by
  obtain ⟨_ | r⟩ := e
  · exact ⟨hp, he, rfl⟩
  · exact ⟨pool_put_spec p hp r (he r rfl), einv_empty, rfl⟩

theorem ering_peek_spec (e : ERing) (he : EInv e) (n : Int) :
    (e.peek n).1 ++ (e.peek n).2 = if n ≤ 0 then e.content else e.content.take n.toNat := by
  obtain ⟨_ | r⟩ := e
  · split
    · rfl
    · exact List.take_nil.symm
  · exact RingBuf.peek_spec r (he r rfl) n

theorem ering_isEmpty_content (e : ERing) (h : e.isEmpty = true) : e.content = [] := by
  obtain ⟨_ | r⟩ := e
  · rfl
  · exact if_pos h

theorem ering_buffered (e : ERing) (he : EInv e) : e.buffered = e.content.length := by
  obtain ⟨_ | r⟩ := e
  · rfl
  · exact (content_length r (he r rfl)).symm

theorem ering_discard_spec (p : Pool) (e : ERing) (hp : PInv p) (he : EInv e) (n : Int) :
    PInv (e.discard p n).1 ∧ EInv (e.discard p n).2.1 ∧
    (e.discard p n).2.1.content = e.content.drop n.toNat ∧
    (e.discard p n).2.2.1 = min n.toNat e.content.length := by
  obtain ⟨_ | r⟩ := e
  · exact ⟨hp, he, List.drop_nil.symm, (Nat.min_zero _).symm⟩
  · obtain ⟨d1, d2, d3⟩ := RingBuf.discard_spec r (he r rfl) n
    obtain ⟨q1, q2, q3⟩ := ering_done_spec p { rb := some (Ring.discard r n).1 } hp (einv_some d1)
    dsimp only [ERing.discard]
    exact ⟨q1, q2, q3.trans d2, d3⟩

theorem ering_read_spec (p : Pool) (e : ERing) (hp : PInv p) (he : EInv e) (k : Nat) :
    PInv (e.read p k).1 ∧ EInv (e.read p k).2.1 ∧
    (e.read p k).2.1.content = e.content.drop k ∧ (e.read p k).2.2.1 = e.content.take k := by
  obtain ⟨_ | r⟩ := e
  · exact ⟨hp, he, List.drop_nil.symm, List.take_nil.symm⟩
  · obtain ⟨d1, d2, d3⟩ := RingBuf.read_spec r (he r rfl) k
    obtain ⟨q1, q2, q3⟩ := ering_done_spec p { rb := some (Ring.read r k).1 } hp (einv_some d1)
    dsimp only [ERing.read]
    exact ⟨q1, q2, q3.trans d2, d3⟩

theorem ering_write_spec (p : Pool) (e : ERing) (hp : PInv p) (he : EInv e) (b : Bytes) :
    PInv (e.write p b).1 ∧ EInv (e.write p b).2 ∧ (e.write p b).2.content = e.content ++ b := by
  unfold ERing.write
  split
  · rename_i h0
    rw [List.eq_nil_of_length_eq_zero h0, List.append_nil]
    exact ⟨hp, he, rfl⟩
  · obtain ⟨_ | r⟩ := e
    · obtain ⟨g1, g2, g3⟩ := pool_get_spec p hp
      obtain ⟨w1, w2⟩ := write_spec p.get.2 g2 b
      exact ⟨g1, einv_some w1, w2.trans (congrArg (· ++ b) g3)⟩
    · obtain ⟨w1, w2⟩ := write_spec r (he r rfl) b
      exact ⟨hp, einv_some w1, w2⟩

theorem ering_reset_spec (e : ERing) (he : EInv e) : EInv e.reset ∧ e.reset.content = [] := by
  obtain ⟨_ | r⟩ := e
  · exact ⟨he, rfl⟩
  · exact ⟨einv_some (inv_reset r (he r rfl)), rfl⟩

structure BInv (b : EBuf) : Prop where
  ring : EInv b.ring
  list : LInv b.list

theorem binv_fresh (maxStatic : Nat) : BInv { maxStatic := maxStatic } := ⟨einv_empty, inv_empty⟩

/-- while `Write` / `Writev` still go to the ring, the list is empty -/
theorem content_of_not_spilled {l : LL} {P : Prop} (h : ¬ ((!LList.isEmpty l) = true ∨ P)) : LList.content l = [] := by
  cases he : LList.isEmpty l with
  | true => exact list_empty_content l he
  | false => exact absurd (Or.inl (he ▸ rfl)) h

theorem ebuf_buffered (b : EBuf) (h : BInv b) : b.buffered = b.content.length := by
  rw [EBuf.buffered, EBuf.content, ering_buffered b.ring h.ring, h.list.bytes, List.length_append]

theorem ebuf_write_spec (p : Pool) (b : EBuf) (hp : PInv p) (h : BInv b) (d : Bytes) :
    PInv (b.write p d).1 ∧ BInv (b.write p d).2 ∧ (b.write p d).2.content = b.content ++ d := by
  unfold EBuf.write
  split
  · obtain ⟨l1, l2⟩ := pushBack_spec b.list h.list d
    exact ⟨hp, ⟨h.ring, l1⟩, (congrArg (b.ring.content ++ ·) l2).trans (List.append_assoc ..).symm⟩
  · have hlc := content_of_not_spilled ‹_›
    split
    · obtain ⟨w1, w2, w3⟩ := ering_write_spec p b.ring hp h.ring (d.take b.ring.available)
      obtain ⟨l1, l2⟩ := pushBack_spec b.list h.list (d.drop b.ring.available)
      refine ⟨w1, ⟨w2, l1⟩, ?_⟩
      simp only [EBuf.content, w3, l2, hlc, List.nil_append, List.append_nil, List.append_assoc, List.take_append_drop]
    · obtain ⟨w1, w2, w3⟩ := ering_write_spec p b.ring hp h.ring d
      refine ⟨w1, ⟨w2, h.list⟩, ?_⟩
      simp only [EBuf.content, w3, hlc, List.append_nil]

theorem foldl_pushBack_spec (bs : List Bytes) (l : LL) (h : LInv l) :
    LInv (bs.foldl LList.pushBack l) ∧ LList.content (bs.foldl LList.pushBack l) = LList.content l ++ bs.flatten := by
  induction bs generalizing l with
  | nil => exact ⟨h, (List.append_nil _).symm⟩
  | cons x xs ih =>
    obtain ⟨l1, l2⟩ := pushBack_spec l h x
    obtain ⟨i1, i2⟩ := ih (LList.pushBack l x) l1
    exact ⟨i1, by rw [List.foldl_cons, i2, l2, List.flatten_cons, List.append_assoc]⟩

theorem writevLoop_spec (p : Pool) (ring : ERing) (list : LL) (bs : List Bytes) (writable : Nat)
    (hp : PInv p) (hr : EInv ring) (hl : LInv list) (hle : LList.content list = []) :
    let res := writevLoop p ring list bs writable
    PInv res.1 ∧ EInv res.2.1 ∧ LInv res.2.2.1 ∧
    res.2.1.content ++ LList.content res.2.2.1 ++ res.2.2.2.flatten = ring.content ++ bs.flatten := by
  induction bs generalizing p ring writable with
  | nil => exact ⟨hp, hr, hl, by simp only [writevLoop, hle, List.flatten_nil, List.append_nil]⟩
  | cons x xs ih =>
    unfold writevLoop
    split
    · obtain ⟨w1, w2, w3⟩ := ering_write_spec p ring hp hr (x.take writable)
      obtain ⟨l1, l2⟩ := pushBack_spec list hl (x.drop writable)
      refine ⟨w1, w2, l1, ?_⟩
      simp only [w3, l2, hle, List.nil_append, List.flatten_cons, List.append_assoc]
      rw [← List.append_assoc (x.take writable), List.take_append_drop]
    · obtain ⟨w1, w2, w3⟩ := ering_write_spec p ring hp hr x
      obtain ⟨i1, i2, i3, i4⟩ := ih (ring.write p x).1 (ring.write p x).2 (writable - x.length) w1 w2
      exact ⟨i1, i2, i3, by rw [i4, w3, List.flatten_cons, List.append_assoc]⟩

theorem ebuf_writev_spec (p : Pool) (b : EBuf) (hp : PInv p) (h : BInv b) (bs : List Bytes) :
    PInv (b.writev p bs).1 ∧ BInv (b.writev p bs).2 ∧ (b.writev p bs).2.content = b.content ++ bs.flatten := by
  unfold EBuf.writev
  split
  · obtain ⟨l1, l2⟩ := foldl_pushBack_spec bs b.list h.list
    exact ⟨hp, ⟨h.ring, l1⟩, (congrArg (b.ring.content ++ ·) l2).trans (List.append_assoc ..).symm⟩
  · have hlc := content_of_not_spilled ‹_›
    obtain ⟨v1, v2, v3, v4⟩ := writevLoop_spec p b.ring b.list bs
      (if b.ring.len < b.maxStatic then b.maxStatic - b.ring.buffered else b.ring.available) hp h.ring h.list hlc
    obtain ⟨f1, f2⟩ := foldl_pushBack_spec _ _ v3
    refine ⟨v1, ⟨v2, f1⟩, ?_⟩
    simp only [EBuf.content, hlc, List.append_nil]
    exact (congrArg (_ ++ ·) f2).trans ((List.append_assoc ..).symm.trans v4)

theorem ebuf_read_spec (p : Pool) (b : EBuf) (hp : PInv p) (h : BInv b) (k : Nat) :
    PInv (b.read p k).1 ∧ BInv (b.read p k).2.1 ∧
    (b.read p k).2.1.content = b.content.drop k ∧ (b.read p k).2.2 = b.content.take k := by
  obtain ⟨r1, r2, r3, r4⟩ := ering_read_spec p b.ring hp h.ring k
  unfold EBuf.read
  simp only [EBuf.content, r4, List.length_take]
  split
  · rename_i hm
    have hk : k ≤ b.ring.content.length := hm ▸ Nat.min_le_right ..
    exact ⟨r1, ⟨r2, h.list⟩, by rw [r3, List.drop_append_of_le_length hk], (List.take_append_of_le_length hk).symm⟩
  · have hk : b.ring.content.length ≤ k := Nat.le_of_not_le fun hle => ‹¬ _› (Nat.min_eq_left hle)
    obtain ⟨l1, l2, l3⟩ := LListBuf.read_spec b.list h.list (k - b.ring.content.length)
    rw [Nat.min_eq_right hk]
    exact ⟨r1, ⟨r2, l1⟩, by rw [r3, l2, List.drop_append], by rw [l3, List.take_append]⟩

theorem ebuf_discard_spec (p : Pool) (b : EBuf) (hp : PInv p) (h : BInv b) (n : Int) :
    PInv (b.discard p n).1 ∧ BInv (b.discard p n).2.1 ∧
    (b.discard p n).2.1.content = b.content.drop n.toNat ∧
    (b.discard p n).2.2 = min n.toNat b.content.length := by
  obtain ⟨r1, r2, r3, r4⟩ := ering_discard_spec p b.ring hp h.ring n
  unfold EBuf.discard
  simp only [EBuf.content, r4, ← Int.toNat_le, List.length_append]
  split
  · rename_i hle
    have hn : n.toNat ≤ b.ring.content.length := Nat.le_trans hle (Nat.min_le_right _ _)
    exact ⟨r1, ⟨r2, h.list⟩, by rw [r3, List.drop_append_of_le_length hn],
      by rw [Nat.min_eq_left hn, Nat.min_eq_left (Nat.le_trans hn (Nat.le_add_right _ _))]⟩
  · rename_i hgt
    have hlt : b.ring.content.length ≤ n.toNat := Nat.le_of_not_le fun hle => hgt (Nat.le_of_eq (Nat.min_eq_left hle).symm)
    obtain ⟨l1, l2, l3⟩ := LListBuf.discard_spec b.list h.list (n - (b.ring.content.length : Nat))
    rw [Int.toNat_sub'] at l2 l3
    rw [Nat.min_eq_right hlt]
    exact ⟨r1, ⟨r2, l1⟩, by rw [r3, l2, List.drop_append], by rw [l3, ← Nat.add_min_add_left, Nat.add_sub_cancel' hlt]⟩

/-- **`Buffer.Peek(n)`**: the slices returned, concatenated, are a prefix of the queue and cover the `n` bytes asked for
    (everything for `n ≤ 0`) -/
theorem ebuf_peek_spec (b : EBuf) (h : BInv b) (n : Int) :
    (∃ rest, b.content = (b.peek n).flatten ++ rest) ∧
    min (LList.clampMax n) b.content.length ≤ (b.peek n).flatten.length := by
  unfold EBuf.peek
  -- the normalised count `n'` is positive and clamps to the same number of bytes
  generalize hn' : (if n ≤ 0 then (LList.maxInt32 : Int) else n) = n'
  have hcl : LList.clampMax n = n'.toNat := by rw [← hn', LList.clampMax]; split <;> rfl
  have hpos : ¬ n' ≤ 0 := by
    rw [← hn']; split
    · decide
    · assumption
  have hpk := ering_peek_spec b.ring h.ring n'
  rw [if_neg hpos] at hpk
  dsimp only
  rw [hcl, ering_buffered b.ring h.ring, EBuf.content]
  split
  · have hlen : n'.toNat ≤ b.ring.content.length := Int.toNat_le.mpr ‹_›
    simp only [List.flatten_cons, List.flatten_nil, List.append_nil, hpk]
    exact ⟨⟨b.ring.content.drop n'.toNat ++ LList.content b.list, by rw [← List.append_assoc, List.take_append_drop]⟩,
      by rw [List.length_take_of_le hlen]; exact Nat.min_le_left ..⟩
  · have hall : (b.ring.peek n').1 ++ (b.ring.peek n').2 = b.ring.content :=
      hpk.trans (List.take_of_length_le (Nat.le_of_lt (Int.lt_toNat.mpr (Int.not_le.mp ‹_›))))
    have := peekWithBytes_spec b.list n' [(b.ring.peek n').1, (b.ring.peek n').2]
    simp only [List.flatten_cons, List.flatten_nil, List.append_nil, hall, LList.clampMax, if_neg hpos] at this
    exact this

theorem ebuf_reset_spec (b : EBuf) (h : BInv b) (m : Int) : BInv (b.reset m) ∧ (b.reset m).content = [] := by
  obtain ⟨r1, r2⟩ := ering_reset_spec b.ring h.ring
  exact ⟨⟨r1, inv_empty⟩, congrArg (· ++ []) r2⟩

theorem ebuf_release_spec (p : Pool) (b : EBuf) (hp : PInv p) (h : BInv b) :
    PInv (b.release p).1 ∧ BInv (b.release p).2 ∧ (b.release p).2.content = [] := by
  obtain ⟨r1, r2, r3⟩ := ering_release_spec p b.ring hp h.ring
  exact ⟨r1, ⟨r2, inv_empty⟩, congrArg (· ++ []) r3⟩

end RcVerif.Lemmas.ElasticBuf
