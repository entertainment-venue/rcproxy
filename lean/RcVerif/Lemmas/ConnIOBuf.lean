import RcVerif.Model.ConnIO
import RcVerif.Lemmas.ElasticBuf
/-
  The write path of a connection keeps the byte stream intact whatever the kernel accepts: wire ++ backlog is
  always exactly what was handed to `write` / `writev`, in order; and the same one layer up, for the pending-write
  queue drained by write signals (`qstream`, `enqueue_spec`, `writeChunks_spec`, `writeSignal_spec`).
-/
namespace RcVerif.Lemmas.ConnIOBuf
open RcVerif RcVerif.Elastic RcVerif.ConnIO RcVerif.Lemmas.ElasticBuf RcVerif.Lemmas.LListBuf

theorem trimSent_flatten (bs : List Bytes) (sent : Nat) : (trimSent bs sent).flatten = bs.flatten.drop sent := by
  induction bs generalizing sent with
  | nil => exact List.drop_nil.symm
  | cons b rest ih =>
    rw [trimSent, List.flatten_cons]
    split
    · rw [List.flatten_cons, List.drop_append_of_le_length (Nat.le_of_lt ‹_›)]
    · rename_i hge
      rw [ih, List.drop_append, List.drop_of_length_le (l := b) (Nat.le_of_not_lt hge), List.nil_append]

/-- everything handed to the connection so far, in order: what the kernel took followed by the backlog -/
def stream (c : Conn) : Bytes := c.wire ++ c.out.content

structure CInv (pool : Pool) (c : Conn) : Prop where
  pool : PInv pool
  out : BInv c.out

theorem cinv_fresh (maxStatic : Nat) : CInv {} { out := { maxStatic := maxStatic } } :=
  ⟨pinv_empty, binv_fresh maxStatic⟩

/-- nothing is backlogged: `write` / `writev` go to the socket first -/
theorem content_of_not_backlogged {b : EBuf} (h : ¬ (!b.isEmpty) = true) : b.content = [] := by
  have he : b.isEmpty = true := by simpa using h
  rw [EBuf.isEmpty, Bool.and_eq_true] at he
  rw [EBuf.content, ering_isEmpty_content b.ring he.1, list_empty_content b.list he.2]; rfl

/-- the shape `write` and `writev` share: with a backlog everything joins it (`back`); without one the kernel takes
    `sent` bytes of `d`, and what is left of `d`, if anything, starts the backlog (`rest`) -/
theorem send_spec {pool : Pool} {c : Conn} (h : CInv pool c) (d : Bytes) (sent : Nat) (back rest : Pool × EBuf)
    (hback : PInv back.1 ∧ BInv back.2 ∧ back.2.content = c.out.content ++ d)
    (hrest : PInv rest.1 ∧ BInv rest.2 ∧ rest.2.content = c.out.content ++ d.drop sent) :
    let r : Pool × Conn :=
      if !c.out.isEmpty then (back.1, { c with out := back.2 })
      else if sent < d.length then (rest.1, { c with wire := c.wire ++ d.take sent, out := rest.2 })
      else (pool, { c with wire := c.wire ++ d.take sent })
    CInv r.1 r.2 ∧ stream r.2 = stream c ++ d := by
  dsimp only
  split
  · exact ⟨⟨hback.1, hback.2.1⟩, (congrArg (c.wire ++ ·) hback.2.2).trans (List.append_assoc ..).symm⟩
  · have hc := content_of_not_backlogged ‹_›
    split
    · refine ⟨⟨hrest.1, hrest.2.1⟩, ?_⟩
      simp only [stream, hrest.2.2, hc, List.nil_append, List.append_nil, List.append_assoc, List.take_append_drop]
    · refine ⟨⟨h.pool, h.out⟩, ?_⟩
      simp only [stream, hc, List.append_nil]
      rw [List.take_of_length_le (Nat.le_of_not_lt ‹_›)]

/-- **`conn.writev`**: whatever the kernel accepts, the stream grows by exactly the slices, in order -/
theorem writev_spec (pool : Pool) (c : Conn) (h : CInv pool c) (bs : List Bytes) (acc : Nat) :
    CInv (writev pool c bs acc).1 (writev pool c bs acc).2 ∧
    stream (writev pool c bs acc).2 = stream c ++ bs.flatten :=
  send_spec h bs.flatten (min acc bs.flatten.length) _ _ (ebuf_writev_spec pool c.out h.pool h.out bs)
    (trimSent_flatten bs _ ▸ ebuf_writev_spec pool c.out h.pool h.out (trimSent bs (min acc bs.flatten.length)))

theorem write_spec (pool : Pool) (c : Conn) (h : CInv pool c) (data : Bytes) (acc : Nat) :
    CInv (write pool c data acc).1 (write pool c data acc).2 ∧
    stream (write pool c data acc).2 = stream c ++ data :=
  send_spec h data (min acc data.length) _ _ (ebuf_write_spec pool c.out h.pool h.out data)
    (ebuf_write_spec pool c.out h.pool h.out (data.drop (min acc data.length)))

/-- what a writable event offers to the kernel is a prefix of the backlog -/
theorem offered_prefix (c : Conn) (h : BInv c.out) : ∃ rest, c.out.content = offered c ++ rest := by
  obtain ⟨⟨r, hr⟩, _⟩ := ebuf_peek_spec c.out h (-1)
  unfold offered
  dsimp only
  split
  · -- the first `iovMax` slices
    refine ⟨((c.out.peek (-1)).drop Gen.iovMax).flatten ++ r, ?_⟩
    rw [hr, ← List.append_assoc, ← List.flatten_append, List.take_append_drop]
  · cases hp : c.out.peek (-1) with
    | nil => exact ⟨c.out.content, by simp⟩
    | cons x xs =>
      rw [hp] at hr
      exact ⟨xs.flatten ++ r, by simp [hr]⟩

/-- **`eventloop.write`**: a writable event moves a prefix of the backlog to the wire; the stream is unchanged -/
theorem flush_spec (pool : Pool) (c : Conn) (h : CInv pool c) (acc : Nat) :
    CInv (flush pool c acc).1 (flush pool c acc).2 ∧ stream (flush pool c acc).2 = stream c := by
  unfold flush
  dsimp only
  obtain ⟨rest, hrest⟩ := offered_prefix c h.out
  obtain ⟨d1, d2, d3, _⟩ := ebuf_discard_spec pool c.out h.pool h.out ((min acc (offered c).length : Nat) : Int)
  simp only [Int.toNat_natCast] at d3
  refine ⟨⟨d1, d2⟩, ?_⟩
  simp only [stream, d3, List.append_assoc]
  congr 1
  rw [hrest]
  rw [List.drop_append_of_le_length (Nat.min_le_right ..), ← List.append_assoc, List.take_append_drop]

/-! ### the pending-write queue and the write signal -/

/-- everything handed to the connection, queued requests included -/
def qstream (c : Conn) : Bytes := stream c ++ c.queue.flatten

theorem writev_queue (pool : Pool) (c : Conn) (bs : List Bytes) (acc : Nat) : (writev pool c bs acc).2.queue = c.queue := by
  unfold writev
  split
  · rfl
  · dsimp only
    split <;> rfl

theorem flush_queue (pool : Pool) (c : Conn) (acc : Nat) : (flush pool c acc).2.queue = c.queue := by
  unfold flush
  rfl

theorem enqueue_spec (pool : Pool) (c : Conn) (h : CInv pool c) (req : Bytes) :
    CInv pool (enqueue c req) ∧ qstream (enqueue c req) = qstream c ++ req := by
  refine ⟨⟨h.pool, h.out⟩, ?_⟩
  simp [qstream, enqueue, stream]

theorem writeChunks_spec (fuel : Nat) (pool : Pool) (c : Conn) (h : CInv pool c) (bs : List Bytes) (accs : List Nat)
    (hf : bs.length < fuel) (hio : 0 < Gen.iovMax) :
    CInv (writeChunks pool c fuel bs accs).1 (writeChunks pool c fuel bs accs).2 ∧
    stream (writeChunks pool c fuel bs accs).2 = stream c ++ bs.flatten ∧
    (writeChunks pool c fuel bs accs).2.queue = c.queue := by
  induction fuel generalizing pool c bs accs with
  | zero => exact absurd hf (Nat.not_lt_zero _)
  | succ fuel ih =>
    cases bs with
    | nil => exact ⟨h, (List.append_nil _).symm, rfl⟩
    | cons b bs' =>
      rw [writeChunks, if_neg (show ¬ (b :: bs').isEmpty = true from Bool.false_ne_true)]
      obtain ⟨w1, w2⟩ := writev_spec pool c h ((b :: bs').take Gen.iovMax) (accs.headD 0)
      have hq := writev_queue pool c ((b :: bs').take Gen.iovMax) (accs.headD 0)
      have hlen : ((b :: bs').drop Gen.iovMax).length < fuel :=
        List.length_drop ▸ Nat.lt_of_lt_of_le (Nat.sub_lt (Nat.succ_pos _) hio) (Nat.le_of_lt_succ hf)
      obtain ⟨i1, i2, i3⟩ := ih _ _ w1 ((b :: bs').drop Gen.iovMax) accs.tail hlen
      refine ⟨i1, ?_, by rw [i3, hq]⟩
      rw [i2, w2, List.append_assoc, ← List.flatten_append, List.take_append_drop]

/-- **`handleWriteSignal`**: whatever the kernel accepts in each vectored write, the queued requests move - in queue
    order - behind what is already on the wire and in the backlog; nothing is lost, duplicated or reordered -/
theorem writeSignal_spec (pool : Pool) (c : Conn) (h : CInv pool c) (accs : List Nat) (hio : 0 < Gen.iovMax) :
    CInv (writeSignal pool c accs).1 (writeSignal pool c accs).2 ∧
    qstream (writeSignal pool c accs).2 = qstream c ∧ (writeSignal pool c accs).2.queue = [] := by
  unfold writeSignal
  dsimp only
  have h0 : CInv pool { c with queue := [] } := ⟨h.pool, h.out⟩
  obtain ⟨i1, i2, i3⟩ := writeChunks_spec (c.queue.length + 1) pool { c with queue := [] } h0 c.queue accs (Nat.lt_succ_self _) hio
  obtain ⟨w1, w2⟩ := writev_spec _ _ i1 [] 0
  have hq := writev_queue (writeChunks pool { c with queue := [] } (c.queue.length + 1) c.queue accs).1
    (writeChunks pool { c with queue := [] } (c.queue.length + 1) c.queue accs).2 [] 0
  refine ⟨w1, ?_, by rw [hq, i3]⟩
  simp only [qstream, w2, i2, hq, i3, List.flatten_nil, List.append_nil]
  rfl

end RcVerif.Lemmas.ConnIOBuf
