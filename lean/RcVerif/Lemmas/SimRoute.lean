import RcVerif.Lemmas.SimBack
/-
  Where fragments go, over all histories:
  * `AInv` - every pooled connection is a connection to its pool's node, so `Pool.Get` hands out a connection to
    the node that was asked for (`ainv_poolGet`);
  * `RoutedInv` - every fragment a client request queued directly sits in the queue history of a connection whose
    node belongs to the replica set owning the fragment's slot.
  `J = AInv ∧ RoutedInv` is preserved by every micro-step of the machine (`j_micro`, `j_run`).
-/
namespace RcVerif.Lemmas.SimRoute
open RcVerif RcVerif.Sim RcVerif.Merge RcVerif.Lemmas.SimBack RcVerif.Lemmas.SimSteps

/-- the slot table and every existing connection's address are kept -/
structure TKeep (s s' : State) : Prop where
  table : s'.table = s.table
  addr : ∀ (id : Nat) (b : Backend), s.backends[id]? = some b → ∃ b', s'.backends[id]? = some b' ∧ b'.addr = b.addr

theorem TKeep.refl (s : State) : TKeep s s := ⟨rfl, fun _ b h => ⟨b, h, rfl⟩⟩
theorem TKeep.trans {a b c : State} (h1 : TKeep a b) (h2 : TKeep b c) : TKeep a c := by
  refine ⟨by rw [h2.table, h1.table], fun id x hx => ?_⟩
  obtain ⟨x', hx', ha⟩ := h1.addr id x hx
  obtain ⟨x'', hx'', ha'⟩ := h2.addr id x' hx'
  exact ⟨x'', hx'', by rw [ha', ha]⟩

theorem tkeep_of_eq (s s' : State) (ht : s'.table = s.table) (hb : s'.backends = s.backends) : TKeep s s' :=
  ⟨ht, fun id b h => ⟨b, by rw [hb]; exact h, rfl⟩⟩

theorem tkeep_fail (s : State) (w : String) : TKeep s (s.fail w) :=
  fail_cases s w (fun _ => .refl s) (tkeep_of_eq _ _ rfl rfl)

theorem tkeep_of_cs {s s' : State} (h : ClientSide s s') : TKeep s s' := tkeep_of_eq _ _ h.table h.backends

theorem tkeep_updClient (s : State) (c : Nat) (f : Client → Client) : TKeep s (s.updClient c f) := tkeep_of_eq _ _ rfl rfl
theorem tkeep_updReq (s : State) (mi : Nat) (f : Req → Req) : TKeep s (s.updReq mi f) := tkeep_of_eq _ _ rfl rfl
theorem tkeep_deliver (s : State) (c : Nat) : TKeep s (deliver s c) := tkeep_of_cs (cs_deliver s c)
theorem tkeep_dropTimeout (s : State) (f : FragRef) : TKeep s (dropTimeout s f) := tkeep_of_eq _ _ rfl rfl
theorem tkeep_answerLocal (s : State) (c : Nat) (m : MMsg) (out : Bytes) : TKeep s (answerLocal s c m out) :=
  tkeep_of_cs (cs_answerLocal s c m out)
theorem tkeep_acceptReq (s : State) (c : Nat) (m : MMsg) : TKeep s (acceptReq s c m).1 := tkeep_of_cs (cs_acceptReq s c m)

theorem tkeep_updBackend (s : State) (b : Nat) (f : Backend → Backend) (hf : ∀ x, (f x).addr = x.addr) : TKeep s (s.updBackend b f) :=
  ⟨rfl, exists_setAt (P := fun _ (x x' : Backend) => x'.addr = x.addr) s.backends b f (fun _ _ _ => rfl) fun x _ => hf x⟩

theorem tkeep_enqueueOut (s : State) (b : Nat) (e : QEntry) : TKeep s (enqueueOut s b e) := by
  unfold enqueueOut
  refine TKeep.trans ?_ (tkeep_of_eq (s.updBackend b _) _ rfl rfl)
  exact tkeep_updBackend s b _ (fun _ => rfl)

theorem tkeep_appendBackend (s : State) (x : Backend) (ps : List Pool) : TKeep s { s with backends := s.backends ++ [x], pools := ps } :=
  ⟨rfl, fun id b hb => ⟨b, getElem?_append_old _ x b id hb, rfl⟩⟩

theorem tkeep_poolGet (S : Strs) (cfg : Cfg) (s : State) (p : Nat) : TKeep s (poolGet S cfg s p).1 :=
  poolGet_rel S cfg s p (tkeep_fail s _) (fun _ => tkeep_of_eq _ _ rfl rfl) (fun _ _ _ => tkeep_appendBackend s _ _)

theorem tkeep_writeSignal (S : Strs) (cfg : Cfg) (s : State) (b : Nat) : TKeep s (writeSignal S cfg s b) := by
  refine writeSignal_cases S cfg s b (TKeep.refl s) fun _ _ _ _ => TKeep.trans ?_ (tkeep_of_eq (s.updBackend b _) _ rfl rfl)
  exact tkeep_updBackend s b _ fun _ => rfl

/-! ### pooled connections belong to their pool's node -/

/-- every pooled connection is a connection to the pool's node -/
def AInv (s : State) : Prop :=
  ∀ (p : Nat) (pool : Pool) (id : Nat), s.pools[p]? = some pool → id ∈ pool.active →
    ∃ b, s.backends[id]? = some b ∧ b.addr = pool.addr

theorem ainv_keep (s s' : State) (hp : s'.pools = s.pools) (hk : TKeep s s') (h : AInv s) : AInv s' := by
  intro p pool id hpool hid
  rw [hp] at hpool
  obtain ⟨b, hb, ha⟩ := h p pool id hpool hid
  obtain ⟨b', hb', ha'⟩ := hk.addr id b hb
  exact ⟨b', hb', by rw [ha', ha]⟩

/-- pool `p` is replaced by a pool of the same node whose pooled ids are old ones of that pool or connections to that
    node; connections are only added -/
theorem ainv_setPool (s s' : State) (p : Nat) (pool : Pool) (g : Pool → Pool) (h : AInv s) (hp : s.pools[p]? = some pool)
    (hpools : s'.pools = setAt s.pools p g)
    (hback : ∀ (i : Nat) (b : Backend), s.backends[i]? = some b → s'.backends[i]? = some b) (haddr : (g pool).addr = pool.addr)
    (hact : ∀ id ∈ (g pool).active, id ∈ pool.active ∨ ∃ b, s'.backends[id]? = some b ∧ b.addr = pool.addr) : AInv s' := by
  have old : ∀ q (pool : Pool), s.pools[q]? = some pool → ∀ id ∈ pool.active, ∃ b, s'.backends[id]? = some b ∧ b.addr = pool.addr :=
    fun q pool hq id hm => let ⟨b, hb, ha⟩ := h q pool id hq hm; ⟨b, hback id b hb, ha⟩
  intro q pool1 id hpool1
  rw [hpools] at hpool1
  refine forall_setAt (P := fun _ (pool : Pool) => ∀ id ∈ pool.active, ∃ b, s'.backends[id]? = some b ∧ b.addr = pool.addr) s.pools p g
    (fun q pool _ => old q pool) (fun pool' hp' id hid => ?_) q pool1 hpool1 id
  cases hp.symm.trans hp'
  exact haddr ▸ (hact id hid).elim (old p pool hp id) fun h => h

theorem ainv_poolGet (S : Strs) (cfg : Cfg) (s : State) (p : Nat) (h : AInv s) :
    AInv (poolGet S cfg s p).1 ∧
    ∀ pool, s.pools[p]? = some pool → ∃ b, (poolGet S cfg s p).1.backends[(poolGet S cfg s p).2]? = some b ∧ b.addr = pool.addr := by
  refine poolGet_cases (P := fun r => AInv r.1 ∧ ∀ pool, s.pools[p]? = some pool → ∃ b, r.1.backends[r.2]? = some b ∧ b.addr = pool.addr)
    S cfg s p (fun hn => ?_) (fun pool id act' _ hp hid hsub _ _ => ?_) fun pool act hp hsub => ?_
  · exact ⟨ainv_keep _ _ (pools_fail s _) (tkeep_fail s _) h, fun _ hpool => nomatch hn.symm.trans hpool⟩
  · refine ⟨ainv_setPool s _ p pool _ h hp rfl (fun _ _ hb => hb) rfl fun x hx => .inl (hsub x hx), fun pool' hpool' => ?_⟩
    cases hp.symm.trans hpool'
    exact h p pool id hp hid
  · have hnew : (s.backends ++ [newConn S cfg pool])[s.backends.length]? = some (newConn S cfg pool) :=
      List.getElem?_concat_length
    refine ⟨ainv_setPool s _ p pool _ h hp rfl (fun i b hb => getElem?_append_old s.backends _ b i hb) rfl fun x hx => ?_,
      fun pool' hpool' => ?_⟩
    · exact (List.mem_cons.mp hx).elim (fun e => .inr ⟨_, e ▸ hnew, rfl⟩) fun e => .inl (hsub x e)
    · cases hp.symm.trans hpool'
      exact ⟨_, hnew, rfl⟩

/-! ### every directly queued fragment sits on a connection of a node that owns its slot -/

/-- `addr` belongs to the replica set owning `slot` -/
def OwnerOK (s : State) (addr : Bytes) (slot : Nat) : Prop :=
  ∃ rs, slotOwner s.table slot = some rs ∧ (addr = rs.master ∨ addr ∈ rs.slaves)

def RoutedInv (s : State) : Prop :=
  ∀ (i : Nat) (b : Backend) (e : QEntry), s.backends[i]? = some b → e ∈ b.enq → e.direct.isSome = true →
    ∀ id slot, e.ref = .frag id slot → OwnerOK s b.addr slot

/-- nothing about pools, the table or addresses changes; queue histories only gain re-sends (not direct entries) -/
structure Still (s s' : State) : Prop where
  pools : s'.pools = s.pools
  tkeep : TKeep s s'
  back : ∀ (i : Nat) (b' : Backend), s'.backends[i]? = some b' →
    ∃ b, s.backends[i]? = some b ∧ b'.addr = b.addr ∧ ∀ e ∈ b'.enq, e ∈ b.enq ∨ e.direct = none

theorem Still.refl (s : State) : Still s s := ⟨rfl, .refl s, fun _ b h => ⟨b, h, rfl, fun _ he => Or.inl he⟩⟩

theorem Still.trans {a b c : State} (h1 : Still a b) (h2 : Still b c) : Still a c := by
  refine ⟨h2.pools.trans h1.pools, h1.tkeep.trans h2.tkeep, fun i x'' hx'' => ?_⟩
  obtain ⟨x', hx', ha', he'⟩ := h2.back i x'' hx''
  obtain ⟨x, hx, ha, he⟩ := h1.back i x' hx'
  exact ⟨x, hx, ha'.trans ha, fun e hm => (he' e hm).elim (he e) .inr⟩

theorem still_of_eq (s s' : State) (hp : s'.pools = s.pools) (ht : s'.table = s.table) (hb : s'.backends = s.backends) : Still s s' :=
  ⟨hp, tkeep_of_eq s s' ht hb, fun _ b' h => ⟨b', hb ▸ h, rfl, fun _ he => Or.inl he⟩⟩

theorem ownerOK_table (s s' : State) (ht : s'.table = s.table) (addr : Bytes) (slot : Nat) (h : OwnerOK s addr slot) :
    OwnerOK s' addr slot := by
  unfold OwnerOK at *; rw [ht]; exact h

theorem routed_still {s s' : State} (hk : Still s s') (h : RoutedInv s) : RoutedInv s' := by
  intro i b' e hb' he hd id slot href
  obtain ⟨b, hb, ha, hsub⟩ := hk.back i b' hb'
  rcases hsub e he with h1 | h1
  · rw [ha]; exact ownerOK_table s s' hk.tkeep.table _ _ (h i b e hb h1 hd id slot href)
  · rw [h1] at hd; simp at hd

def J (s : State) : Prop := AInv s ∧ RoutedInv s

theorem j_still {s s' : State} (hk : Still s s') (h : J s) : J s' :=
  ⟨ainv_keep s s' hk.pools hk.tkeep h.1, routed_still hk h.2⟩

theorem still_fail (s : State) (w : String) : Still s (s.fail w) :=
  fail_cases s w (fun _ => .refl s) (still_of_eq _ _ rfl rfl rfl)

theorem still_of_cs {s s' : State} (h : ClientSide s s') : Still s s' := still_of_eq _ _ h.pools h.table h.backends

theorem still_updBackend (s : State) (b : Nat) (f : Backend → Backend) (ha : ∀ x, (f x).addr = x.addr)
    (he : ∀ x, ∀ e ∈ (f x).enq, e ∈ x.enq ∨ e.direct = none) : Still s (s.updBackend b f) :=
  ⟨rfl, tkeep_updBackend s b f ha,
    forall_setAt s.backends b f (fun _ y _ hy => ⟨y, hy, rfl, fun _ h => .inl h⟩) fun x hx => ⟨x, hx, ha x, he x⟩⟩

theorem still_enqueueOut_none (s : State) (b : Nat) (e : QEntry) (h : e.direct = none) : Still s (enqueueOut s b e) := by
  unfold enqueueOut
  refine Still.trans ?_ (still_of_eq (s.updBackend b _) _ rfl rfl rfl)
  exact still_updBackend s b _ (fun _ => rfl) fun x e' he' =>
    (List.mem_append.mp he').imp_right fun h1 => (congrArg QEntry.direct (List.mem_singleton.mp h1)).trans h

theorem still_writeSignal (S : Strs) (cfg : Cfg) (s : State) (b : Nat) : Still s (writeSignal S cfg s b) := by
  refine writeSignal_cases S cfg s b (Still.refl s) fun _ _ _ _ => Still.trans ?_ (still_of_eq (s.updBackend b _) _ rfl rfl rfl)
  exact still_updBackend s b _ (fun _ => rfl) fun _ _ h => .inl h

theorem still_backendClose (S : Strs) (s : State) (b : Nat) : Still s (backendClose S s b) :=
  backendClose_cases S s b (Still.refl s) fun _ _ _ =>
    (still_of_cs (cs_closeScan S s _ _)).trans (still_updBackend _ b _ (fun _ => rfl) fun _ _ h => .inl h)

theorem routed_of_keeps {s s' : State} (hb : BKeep s s') (ht : TKeep s s') (h : RoutedInv s) : RoutedInv s' := by
  intro i b' e hb' he hd id slot href
  rw [hb.enq i b' hb'] at he
  revert he
  refine enqAt_cases (P := fun l => e ∈ l → _) s i (fun _ => nofun) fun b hx he => ?_
  obtain ⟨b'', hb'', ha⟩ := ht.addr i b hx
  cases hb'.symm.trans hb''
  exact ha ▸ ownerOK_table s s' ht.table _ _ (h i b e hx he hd id slot href)

theorem j_poolGet (S : Strs) (cfg : Cfg) (s : State) (p : Nat) (h : J s) :
    J (poolGet S cfg s p).1 ∧
    ∀ pool, s.pools[p]? = some pool → ∃ b, (poolGet S cfg s p).1.backends[(poolGet S cfg s p).2]? = some b ∧ b.addr = pool.addr := by
  obtain ⟨a1, a2⟩ := ainv_poolGet S cfg s p h.1
  exact ⟨⟨a1, routed_of_keeps (bkeep_poolGet S cfg s p) (tkeep_poolGet S cfg s p) h.2⟩, a2⟩

theorem routeAdmissible_mem (T : Tables) (cfg : Cfg) (s : State) (ty : Nat) (rs : RSet) (addr : Bytes)
    (h : routeAdmissible T cfg s ty rs addr = true) : addr = rs.master ∨ addr ∈ rs.slaves := by
  unfold routeAdmissible at h
  dsimp only at h
  split at h
  · left; simpa using h
  · split at h
    · left; simpa using h
    · right
      have : addr ∈ liveSlaves s rs := by simpa using h
      unfold liveSlaves at this
      exact (List.mem_filter.mp this).1

/-- a target handed out by routing: an existing connection of a node that owns the slot -/
def TargetOK (s : State) (t : Nat × Nat) : Prop := ∃ b, s.backends[t.2]? = some b ∧ OwnerOK s b.addr t.1

theorem targetOK_tkeep {s s' : State} (hk : TKeep s s') {t : Nat × Nat} (h : TargetOK s t) : TargetOK s' t := by
  obtain ⟨b, hb, ho⟩ := h
  obtain ⟨b', hb', ha⟩ := hk.addr t.2 b hb
  exact ⟨b', hb', by rw [ha]; exact ownerOK_table s s' hk.table _ _ ho⟩

theorem resolve_j (T : Tables) (S : Strs) (cfg : Cfg) (ty : Nat) (s : State) (vs : List (Nat × Bytes)) (h : J s) :
    J (resolve T S cfg ty s vs []).1 ∧ ∀ t ∈ (resolve T S cfg ty s vs []).2.1, TargetOK (resolve T S cfg ty s vs []).1 t := by
  refine resolve_ind (Q := fun s' acc' => J s' ∧ ∀ t ∈ acc', TargetOK s' t) T S cfg ty
    (fun s' acc' w h => ⟨j_still (still_fail s' w) h.1, fun t ht => targetOK_tkeep (tkeep_fail s' w) (h.2 t ht)⟩)
    (fun s' acc' slot addr rs p h hown hadm hp => ?_) vs s [] ⟨h, nofun⟩
  obtain ⟨pool, hpool, hpa, _⟩ := findPool_spec s'.pools addr p hp
  obtain ⟨hj, hget⟩ := j_poolGet S cfg s' p h.1
  obtain ⟨b, hb, hba⟩ := hget pool hpool
  have htk := tkeep_poolGet S cfg s' p
  refine ⟨hj, fun t ht => ?_⟩
  rcases List.mem_append.mp ht with h1 | h1
  · exact targetOK_tkeep htk (h.2 t h1)
  · rw [List.mem_singleton.mp h1]
    exact ⟨b, hb, rs, by rw [htk.table]; exact hown, by rw [hba, hpa]; exact routeAdmissible_mem T cfg s' ty rs addr hadm⟩

theorem routed_enqueueOut (s : State) (tb : Nat) (e : QEntry) (id slot : Nat) (href : e.ref = .frag id slot)
    (ht : TargetOK s (slot, tb)) (h : RoutedInv s) : RoutedInv (enqueueOut s tb e) := by
  obtain ⟨x, hx, hox⟩ := ht
  intro i b' e' hb'
  refine forall_setAt (P := fun _ (b' : Backend) => ∀ e' ∈ b'.enq, e'.direct.isSome = true → ∀ id slot, e'.ref = .frag id slot →
      OwnerOK s b'.addr slot) s.backends tb _ (fun i y _ hy e' => h i y e' hy) (fun y hy e' he' hd id' slot' href' => ?_) i b' hb' e'
  cases hx.symm.trans hy
  rcases List.mem_append.mp he' with h1 | h1
  · exact h tb x e' hx h1 hd id' slot' href'
  · -- the new entry
    cases List.mem_singleton.mp h1
    cases href.symm.trans href'
    exact hox

theorem j_foldl_enqueue (targets : List (Nat × Nat)) (g : Nat × Nat → QEntry) (id : Nat) (s : State)
    (hg : ∀ t, (g t).ref = .frag id t.1) (h : J s) (hok : ∀ t ∈ targets, TargetOK s t) :
    J (targets.foldl (fun st t => enqueueOut st t.2 (g t)) s) :=
  -- the targets stay good while the entries are queued: addresses and the table are kept
  (List.foldlRecOn targets (fun st t => enqueueOut st t.2 (g t)) (motive := fun st => J st ∧ TKeep s st) ⟨h, .refl s⟩
    fun st ⟨hj, hk⟩ t ht =>
    have hk' := tkeep_enqueueOut st t.2 (g t)
    ⟨⟨ainv_keep st _ rfl hk' hj.1, routed_enqueueOut st t.2 (g t) id t.1 (hg t) (targetOK_tkeep hk (hok t ht)) hj.2⟩,
      hk.trans hk'⟩).1

theorem j_forward (T : Tables) (S : Strs) (cfg : Cfg) (s : State) (c : Nat) (cm : CDecode.CMsg) (ch : ReqChoice)
    (h : J s) : J (forward T S cfg s c cm ch) := by
  obtain ⟨h1, hok⟩ := resolve_j T S cfg cm.type s ch.visit h
  refine forward_cases T S cfg s c cm ch (j_still (still_fail s _) h)
    (fun e => j_still (still_of_cs (cs_answerLocal _ c _ e)) h1) (fun _ => h1) (j_still (still_fail _ _) h1) ?_
  have hst := still_of_cs (cs_acceptReq (resolve T S cfg cm.type s ch.visit []).1 c
    (fwdMsg cm (resolve T S cfg cm.type s ch.visit []).2.1))
  exact j_foldl_enqueue _ _ _ _ (fun _ => rfl) (j_still hst h1) fun t ht =>
    targetOK_tkeep hst.tkeep (hok t ht)

theorem j_onRequest (T : Tables) (S : Strs) (cfg : Cfg) (s : State) (c : Nat) (cm : CDecode.CMsg) (ch : ReqChoice)
    (h : J s) : J (onRequest T S cfg s c cm ch).1 :=
  onRequest_cases T S cfg s c cm ch (fun _ => j_still (still_of_cs (cs_answerLocal s c _ _)) h) (j_forward T S cfg s c cm ch h)

theorem still_pop (s : State) (b : Nat) (f : FragRef) (inQ' : List FragRef) :
    Still s (dropTimeout (s.updBackend b (fun x => { x with inQ := inQ' })) f) :=
  (still_updBackend s b (fun x => { x with inQ := inQ' }) (fun _ => rfl) fun _ _ h => .inl h).trans
    (still_of_cs (cs_dropTimeout _ f))

theorem j_onMoved (S : Strs) (cfg : Cfg) (s : State) (mi slot : Nat) (isAsk : Bool) (addr : Bytes) (h : J s) :
    J (onMoved S cfg s mi slot isAsk addr) := by
  have h1 : J (bumpRed s mi slot) := j_still (still_of_cs (cs_updReq s mi _)) h
  refine onMoved_cases S cfg s mi slot isAsk addr (fun _ => j_still (still_fail s _) h)
    (fun r e _ => j_still (still_of_cs (cs_failOne _ mi slot e r.owner)) h1) fun r p _ _ _ =>
      resendTo_rel (R := fun a b => J a → J b) S cfg _ mi slot isAsk p (fun f g x => g (f x)) (fun h => (j_poolGet S cfg _ p h).1)
        (fun st b e he => j_still (still_enqueueOut_none st b e he)) h1

theorem j_onFragReply (T : Tables) (S : Strs) (cfg : Cfg) (slotFn : Bytes → Nat) (s : State) (mi slot rtype : Nat)
    (body : Bytes) (h : J s) : J (onFragReply T S cfg slotFn s mi slot rtype body).1 := by
  have h1 : ∀ m', J (s.updReq mi fun r => { r with m := m' }) := fun m' => j_still (still_of_cs (cs_updReq s mi _)) h
  exact onFragReply_cases T S cfg slotFn s mi slot rtype body (j_still (still_fail s _) h)
    (fun _ m' _ w _ _ => j_still (still_fail _ w) (h1 m')) (fun _ m' _ _ _ _ => h1 m')
    (fun _ m' _ _ => j_onMoved S cfg _ mi slot _ _ (h1 m')) (fun _ m' _ _ => j_still (still_of_cs (cs_deliver _ _)) (h1 m'))

theorem j_poolRemove (s : State) (p : Nat) (h : J s) : J (poolRemove s p) :=
  poolRemove_cases s p h fun pool hp _ => ⟨ainv_setPool s _ p pool _ h.1 hp rfl (fun _ _ hb => hb) rfl nofun, h.2⟩

theorem j_micro (T : Tables) (S : Strs) (cfg : Cfg) (slotFn : Bytes → Nat) (s s' : State)
    (hm : Micro T S cfg slotFn s s') (h : J s) : J s' := by
  have idle : ∀ (x : Backend) (e : QEntry), e ∈ x.enq → e ∈ x.enq ∨ e.direct = none := fun _ _ h => .inl h
  have still {s'} (hk : Still s s') : J s' := j_still hk h
  cases hm with
  | connect a => exact still (still_of_eq s { s with clients := _ } rfl rfl rfl)
  | fail w => exact still (still_fail s w)
  | closeClient c => exact still (still_of_cs (cs_closeClient s c))
  | leftover c v => exact still (still_of_cs (cs_updClient s c _))
  | closing c => exact still (still_of_cs (cs_updClient s c _))
  | request c cm ch cl hc ho => exact j_onRequest T S cfg s c cm ch h
  | leftoverB b v => exact still (still_updBackend s b _ (fun _ => rfl) idle)
  | initDone b => exact still (still_updBackend s b _ (fun _ => rfl) idle)
  | pop b x f inQ' => exact still (still_pop s b f inQ')
  | reply b x mi slot inQ' rtype body =>
    exact j_onFragReply T S cfg slotFn _ mi slot rtype body (still (still_pop s b _ inQ'))
  | writeSignal b => exact still (still_writeSignal S cfg s b)
  | backendClose b => exact still (still_backendClose S s b)
  | clearTasks => exact still (still_of_eq s { s with tasks := _ } rfl rfl rfl)
  | expire n => exact still (still_of_cs (cs_expire S s n))
  | poolRemove p => exact j_poolRemove s p h

theorem j_run (T : Tables) (S : Strs) (cfg : Cfg) (slotFn : Bytes → Nat) (es : List Event) (s : State) (h : J s) :
    J (run T S cfg slotFn s es) :=
  (steps_run es s).inv (fun a b _ => j_micro T S cfg slotFn a b) h

theorem j_init (S : Strs) (cfg : Cfg) (pools : List (Bytes × Bool)) (table : List (Nat × Nat × RSet)) :
    J (init S cfg pools table) := by
  refine init_ind S cfg pools table ⟨fun p pool id hpool hid => ?_, fun _ _ _ hb => nomatch hb⟩ fun s p h => (j_poolGet S cfg s p h).1
  simp only [List.getElem?_map] at hpool
  obtain ⟨q, _, rfl⟩ := Option.map_eq_some_iff.mp hpool
  cases hid

end RcVerif.Lemmas.SimRoute
