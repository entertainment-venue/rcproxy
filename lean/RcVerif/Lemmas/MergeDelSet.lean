import RcVerif.Lemmas.MergeBasic
import RcVerif.Lemmas.Decimal
import RcVerif.Lemmas.Frame
/-
  DEL and MSET reassembly in any arrival order: the sum of the per-node counts,
  and OK exactly when every node answered OK.
-/
open RcVerif RcVerif.Merge RcVerif.Resp RcVerif.Lemmas.Decimal RcVerif.Lemmas.Frame RcVerif.Lemmas.MergeBasic

namespace RcVerif.Lemmas.MergeDelSet

section del
variable (T : Tables) (K : Consts) (slotFn : Bytes → Nat) (limit : Nat) (cnt : Nat → Nat)

/-- the node's answer to the DEL fragment of slot `s`: the number of keys it removed -/
def delBody (s : Nat) : Bytes := [58] ++ itoa (cnt s) ++ [13, 10]

/-- the reply to a split DEL: the sum of the per-node counts -/
def finalDel (n : Nat) : Bytes := [58] ++ itoa n ++ [13, 10]

theorem itoaInt_ofNat (n : Nat) : itoaInt (Int.ofNat n) = itoa n := if_neg (ofNat_not_neg n)

structure InitDel (m0 : MMsg) : Prop where
  type : m0.type = T.cDel
  fresh : ∀ fr ∈ m0.frags, fr.done = false ∧ fr.err = []
  notDone : m0.done = false
  fragDone : m0.fragDone = 0
  delNum : m0.delNum = 0

def markD (_ : Nat) (fr : MFrag) : MFrag := { fr with done := true, rtype := T.rInteger }

def midD (m0 : MMsg) (ps : List Nat) : MMsg :=
  { mid (markD T) m0 ps with delNum := Int.ofNat ((ps.map cnt).sum) }

theorem parse_delBody (s : Nat) (h : Small (cnt s)) :
    parseLen (((delBody cnt s).drop 1).take ((delBody cnt s).length - 3)) = .ok (Int.ofNat (cnt s)) := by
  have : ((delBody cnt s).drop 1).take ((delBody cnt s).length - 3) = itoa (cnt s) := by
    simp [delBody]
  rw [this, parseLen_itoa _ h]

theorem del_step (m0 : MMsg) (ps : List Nat) (s : Nat) (hs : s ∉ ps) (hsm : Small (cnt s)) :
    mergeDel (bump (midD T cnt m0 ps)) s T.rInteger (delBody cnt s)
      = if ps.length + 1 < m0.frags.length then (midD T cnt m0 (ps ++ [s]), .waiting)
        else (finish (midD T cnt m0 (ps ++ [s])) (finalDel (((ps ++ [s]).map cnt).sum)), .ready) := by
  have hset : setFrag { (bump (midD T cnt m0 ps)) with delNum := (bump (midD T cnt m0 ps)).delNum + Int.ofNat (cnt s) } s
      (fun x => { x with done := true, rtype := T.rInteger }) = midD T cnt m0 (ps ++ [s]) := by
    rw [midD, midD, ← setFrag_mid (markD T) (fun _ _ => rfl) m0 ps s hs, List.map_append, List.sum_append_nat]
    rfl
  unfold mergeDel
  have hlen : (midD T cnt m0 (ps ++ [s])).fragDone < (midD T cnt m0 (ps ++ [s])).frags.length ↔
      ps.length + 1 < m0.frags.length := mid_waiting (markD T) m0 ps s
  simp only [parse_delBody cnt s hsm, hset, hlen]
  rw [show (midD T cnt m0 (ps ++ [s])).delNum = Int.ofNat _ from rfl, itoaInt_ofNat]
  rfl

theorem del_any_order (hr : T.rInteger ≠ T.rMoved ∧ T.rInteger ≠ T.rAsk ∧ T.rInteger ≠ T.rError)
    (hc : T.cDel ≠ T.cMget ∧ T.cDel ≠ T.cMset) (m0 : MMsg) (hi : InitDel T m0) (hsm : ∀ s, Small (cnt s))
    (hnd : (m0.frags.map (·.slot)).Nodup) (hne : m0.frags ≠ []) (hsz : ∀ s, (delBody cnt s).length ≤ limit)
    (order : List Nat) (hperm : order.Perm (m0.frags.map (·.slot))) :
    order.foldl (fun (acc : MMsg × List Signal) s =>
          let r := onReply T K slotFn limit acc.1 s T.rInteger (delBody cnt s)
          (r.1, acc.2 ++ [r.2])) (m0, [])
      = (finish (midD T cnt m0 order) (finalDel (((m0.frags.map (·.slot)).map cnt).sum)),
         List.replicate (order.length - 1) Signal.waiting ++ [Signal.ready]) := by
  have h0 : midD T cnt m0 [] = m0 := by
    rw [midD, mid_nil _ m0 hi.fragDone]
    show { m0 with delNum := 0 } = m0
    rw [← hi.delNum]
  rw [← (hperm.map cnt).sum_nat]
  refine feed_any_order (fun m s => onReply T K slotFn limit m s T.rInteger (delBody cnt s)) (midD T cnt m0)
    (fun ps => finish (midD T cnt m0 ps) (finalDel ((ps.map cnt).sum))) _ hnd
    (fun ps s hs hmem _ => ?_) (by simpa using hne) h0 order hperm
  rw [onReply_merge T K slotFn limit (midD T cnt m0 ps) s _ _
    (getFrag_mid_fresh (markD T) (fun _ _ => rfl) m0 hi.fresh ps s hs hmem)
    ⟨hr.1, hr.2.1⟩ (fun h => hr.2.2 h.1) (hsz s)]
  simp only [show (midD T cnt m0 ps).type = T.cDel from hi.type, hc.1, hc.2, ↓reduceIte, List.length_map]
  exact del_step T cnt m0 ps s hs (hsm s)

end del

section mset
variable (T : Tables) (K : Consts) (slotFn : Bytes → Nat) (limit : Nat)
variable (rt : Nat → Nat) (body : Nat → Bytes)   -- per slot: the reply type and bytes of the node

structure InitSet (m0 : MMsg) : Prop where
  type : m0.type = T.cMset
  fresh : ∀ fr ∈ m0.frags, fr.done = false ∧ fr.err = []
  notDone : m0.done = false
  fragDone : m0.fragDone = 0

/-- reducible for the same reason as `MergeMGet.mark` -/
abbrev markS (s : Nat) (fr : MFrag) : MFrag := { fr with ok := (rt s = T.rOk), done := true, rtype := rt s }

/-- the reply to a split MSET: OK only if every node said OK -/
def finalSet (m0 : MMsg) : Bytes :=
  if (m0.frags.all (fun fr => rt fr.slot = T.rOk)) then K.ok else K.errUnknown

theorem finalSet_eq_ok (m0 : MMsg) (hne : K.errUnknown ≠ K.ok) :
    finalSet T K rt m0 = K.ok ↔ ∀ fr ∈ m0.frags, rt fr.slot = T.rOk := by
  have hall : m0.frags.all (fun fr => decide (rt fr.slot = T.rOk)) = true ↔ ∀ fr ∈ m0.frags, rt fr.slot = T.rOk := by
    simp only [List.all_eq_true, decide_eq_true_eq]
  rw [← hall, finalSet]
  split
  · exact iff_of_true rfl ‹_›
  · exact iff_of_false hne ‹_›

theorem all_ok_mid (m0 : MMsg) (qs : List Nat) (hall : ∀ s ∈ m0.frags.map (·.slot), s ∈ qs) :
    (mid (markS T rt) m0 qs).frags.all (·.ok) = m0.frags.all (fun fr => decide (rt fr.slot = T.rOk)) := by
  rw [mid_all _ m0 qs hall, List.all_map]
  rfl

theorem mset_step (m0 : MMsg) (ps : List Nat) (s : Nat) (hs : s ∉ ps)
    (hall : ¬ ps.length + 1 < m0.frags.length → ∀ x ∈ m0.frags.map (·.slot), x ∈ ps ++ [s]) :
    mergeMSet T K (bump (mid (markS T rt) m0 ps)) s (rt s)
      = if ps.length + 1 < m0.frags.length then (mid (markS T rt) m0 (ps ++ [s]), .waiting)
        else (finish (mid (markS T rt) m0 (ps ++ [s])) (finalSet T K rt m0), .ready) := by
  unfold mergeMSet
  simp only [setFrag_mid (markS T rt) (fun _ _ => rfl) m0 ps s hs, mid_waiting]
  refine ite_congr rfl (fun _ => rfl) fun hw => ?_
  rw [all_ok_mid T rt m0 (ps ++ [s]) (hall hw)]
  unfold finalSet finish
  split <;> rfl

theorem mset_any_order (hrt : ∀ s, rt s ≠ T.rMoved ∧ rt s ≠ T.rAsk ∧ rt s ≠ T.rError) (hc : T.cMset ≠ T.cMget)
    (m0 : MMsg) (hi : InitSet T m0) (hnd : (m0.frags.map (·.slot)).Nodup) (hne : m0.frags ≠ []) (hsz : ∀ s, (body s).length ≤ limit)
    (order : List Nat) (hperm : order.Perm (m0.frags.map (·.slot))) :
    order.foldl (fun (acc : MMsg × List Signal) s =>
          let r := onReply T K slotFn limit acc.1 s (rt s) (body s)
          (r.1, acc.2 ++ [r.2])) (m0, [])
      = (finish (mid (markS T rt) m0 order) (finalSet T K rt m0),
         List.replicate (order.length - 1) Signal.waiting ++ [Signal.ready]) := by
  refine feed_any_order (fun m s => onReply T K slotFn limit m s (rt s) (body s)) (mid (markS T rt) m0)
    (fun ps => finish (mid (markS T rt) m0 ps) (finalSet T K rt m0)) _ hnd
    (fun ps s hs hmem hall => ?_) (by simpa using hne) (mid_nil _ m0 hi.fragDone) order hperm
  rw [onReply_merge T K slotFn limit _ s _ _
    (getFrag_mid_fresh (markS T rt) (fun _ _ => rfl) m0 hi.fresh ps s hs hmem)
    ⟨(hrt s).1, (hrt s).2.1⟩ (fun h => (hrt s).2.2 h.1) (hsz s)]
  simp only [show (mid (markS T rt) m0 ps).type = T.cMset from hi.type, hc, ↓reduceIte, List.length_map] at hall ⊢
  exact mset_step T K rt m0 ps s hs hall

end mset
end RcVerif.Lemmas.MergeDelSet
