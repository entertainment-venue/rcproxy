import RcVerif.Model.SDecode
import RcVerif.Spec.Resp
import RcVerif.Lemmas.Frame
/-
  Framing of backend replies: every well-formed RESP2 reply value, nested to any
  depth, is framed exactly and classified by its first line, whatever follows it.
-/
namespace RcVerif.Lemmas.Reply
open RcVerif RcVerif.Resp RcVerif.SDecode RcVerif.Spec RcVerif.Lemmas.Decimal RcVerif.Lemmas.Frame

mutual
/-- well-formed reply values: lines without LF, lengths and counts the decoder can express -/
def WF : Reply → Prop
  | .status l => (10 : UInt8) ∉ l
  | .error l => (10 : UInt8) ∉ l
  | .integer l => (10 : UInt8) ∉ l
  | .bulk b => Small b.length
  | .nullBulk => True
  | .array xs => Small xs.length ∧ WFs xs
  | .nullArray => True
def WFs : List Reply → Prop
  | [] => True
  | x :: xs => WF x ∧ WFs xs
end

mutual
/-- recursion budget `readReply` needs for a value -/
def need : Reply → Nat
  | .array xs => 1 + needs xs
  | _ => 1
def needs : List Reply → Nat
  | [] => 1
  | x :: xs => 1 + max (need x) (needs xs)
end

/-- the type `readReply` assigns -/
def cls (T : Tables) : Reply → Nat
  | .status l => classifyStatus T (43 :: l)
  | .error l => classifyError T (45 :: l)
  | .integer _ => T.rInteger
  | .bulk _ => T.rBulk
  | .nullBulk => T.rBulk
  | .array _ => T.rMultibulk
  | .nullArray => T.cUnknown

theorem line_append (c : UInt8) (l t : Bytes) : [c] ++ l ++ [13, 10] ++ t = c :: (l ++ 13 :: 10 :: t) :=
  List.append_assoc (c :: l) [13, 10] t

theorem need_pos : ∀ v : Reply, 0 < need v
  | .array xs => by rw [need]; omega
  | .status _ | .error _ | .integer _ | .bulk _ | .nullBulk | .nullArray => Nat.one_pos

theorem needs_pos : ∀ xs : List Reply, 0 < needs xs
  | [] => Nat.one_pos
  | _ :: _ => by rw [needs]; omega

mutual
theorem readReply_enc (T : Tables) : ∀ (v : Reply) (t : Bytes) (fuel : Nat), WF v → need v ≤ fuel →
    readReply T fuel (encReply v ++ t) = .ok (cls T v, t)
  | v, _, 0, _, hf => absurd (need_pos v) (Nat.not_lt.mpr hf)
  | .status l, t, f + 1, h, _ | .error l, t, f + 1, h, _ | .integer l, t, f + 1, h, _ => by
    -- the three replies that are one line: `+`, `-`, `:`
    rw [encReply, line_append, readReply, readLine_simple _ l t ?_ h]
    · rfl
    · decide
  | .bulk b, t, f + 1, h, _ => by
    rw [show encReply (.bulk b) ++ t = _ from bulk_append b t, readReply, readLine_header 36 _ _ (by decide)]
    simp only [parseLen_itoa b.length h]
    rw [if_neg (ofNat_not_neg _), show (Int.ofNat b.length).toNat = b.length from rfl, readN_append b _ (by simp)]
    simp only [readN_crlf, ↓reduceIte, cls]
  | .nullBulk, t, f + 1, _, _ => by
    have hl : readLine (encReply .nullBulk ++ t) = .ok ([36, 45, 49], t) :=
      readLine_line [36, 45, 49] t (List.cons_ne_nil _ _) (by simp)
    rw [readReply, hl]
    rfl
  | .nullArray, t, f + 1, _, _ => by
    have hl : readLine (encReply .nullArray ++ t) = .ok ([42, 45, 49], t) :=
      readLine_line [42, 45, 49] t (List.cons_ne_nil _ _) (by simp)
    rw [readReply, hl]
    rfl
  | .array xs, t, f + 1, h, hf => by
    rw [show encReply (.array xs) ++ t = 42 :: (itoa xs.length ++ 13 :: 10 :: (encReplies xs ++ t)) by
      rw [encReply, List.append_assoc, List.append_assoc]; rfl, readReply, readLine_header 42 _ _ (by decide)]
    simp only [parseLen_itoa xs.length h.1]
    rw [if_neg (ofNat_not_neg _), show (Int.ofNat xs.length).toNat = xs.length from rfl,
      readReplies_enc T xs t f h.2 (by rw [need] at hf; omega)]
    rfl

theorem readReplies_enc (T : Tables) : ∀ (xs : List Reply) (t : Bytes) (fuel : Nat), WFs xs → needs xs ≤ fuel →
    readReplies T fuel xs.length (encReplies xs ++ t) = .ok t
  | xs, _, 0, _, hf => absurd (needs_pos xs) (Nat.not_lt.mpr hf)
  | [], t, f + 1, _, _ => rfl
  | x :: xs, t, f + 1, h, hf => by
    have hm : max (need x) (needs xs) ≤ f := Nat.le_of_add_le_add_left (Nat.add_comm f 1 ▸ hf)
    rw [show encReplies (x :: xs) ++ t = encReply x ++ (encReplies xs ++ t) from List.append_assoc _ _ _,
      List.length_cons, readReplies, readReply_enc T x _ f h.1 (Nat.le_trans (Nat.le_max_left _ _) hm)]
    exact readReplies_enc T xs t f h.2 (Nat.le_trans (Nat.le_max_right _ _) hm)
end

mutual
theorem need_le : ∀ v : Reply, need v ≤ (encReply v).length ∧ 3 ≤ (encReply v).length
  | .status _ | .error _ | .integer _ | .nullBulk | .nullArray => by simp [need, encReply]
  | .bulk b => by simp [need, encReply, encBulk]; omega
  | .array xs => by
    have := needs_le xs
    have h1 : 0 < (itoa xs.length).length := List.length_pos_iff.mpr (itoa_ne_nil _)
    simp [need, encReply]; omega

theorem needs_le : ∀ xs : List Reply, needs xs ≤ 1 + (encReplies xs).length
  | [] => by simp [needs, encReplies]
  | x :: xs => by
    have hx := need_le x
    have hs := needs_le xs
    simp [needs, encReplies]; omega
end

theorem frameReply_enc (T : Tables) (v : Reply) (t : Bytes) (h : WF v) :
    frameReply T (encReply v ++ t) = .ok (cls T v) (encReply v).length := by
  have hl := need_le v
  unfold frameReply
  have h0 : ¬ (encReply v ++ t).length < 1 := by rw [List.length_append]; omega
  simp only [h0, ↓reduceIte]
  have hfuel : need v ≤ (encReply v ++ t).length * 2 + 4 := by
    rw [List.length_append]; omega
  rw [readReply_enc T v t _ h hfuel]
  simp

end RcVerif.Lemmas.Reply
