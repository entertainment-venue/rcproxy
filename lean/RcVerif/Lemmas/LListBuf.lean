import RcVerif.Model.LList
/-
  `linkedlist.Buffer` refines a FIFO byte queue; its node and byte counters are exact.
-/
namespace RcVerif.Lemmas.LListBuf
open RcVerif RcVerif.LList

structure LInv (l : LL) : Prop where
  size : l.size = l.nodes.length
  bytes : l.bytes = (content l).length

theorem inv_empty : LInv {} := ⟨rfl, rfl⟩

theorem list_empty_content (l : LL) (h : isEmpty l = true) : content l = [] :=
  congrArg List.flatten (List.isEmpty_iff.mp h)

theorem pushBack_spec (l : LL) (h : LInv l) (p : Bytes) :
    LInv (pushBack l p) ∧ content (pushBack l p) = content l ++ p := by
  unfold pushBack
  split
  · rename_i h0
    have : p = [] := List.eq_nil_of_length_eq_zero h0
    simp [this, h]
  · refine ⟨⟨by simp [h.size], by simp [content, h.bytes]⟩, by simp [content]⟩

theorem pushFront_spec (l : LL) (h : LInv l) (p : Bytes) :
    LInv (pushFront l p) ∧ content (pushFront l p) = p ++ content l := by
  unfold pushFront
  split
  · rename_i h0
    have : p = [] := List.eq_nil_of_length_eq_zero h0
    simp [this, h]
  · refine ⟨⟨by simp [h.size], by simp [content, h.bytes]; omega⟩, by simp [content]⟩

/-- the node walk returns whole nodes from the front: a prefix, and it stops early only once the running
    total has reached the limit -/
theorem peekNodes_spec (nodes : List Bytes) (cum max : Nat) :
    (∃ rest, nodes = peekNodes nodes cum max ++ rest) ∧
    min max (cum + nodes.flatten.length) ≤ cum + (peekNodes nodes cum max).flatten.length := by
  induction nodes generalizing cum with
  | nil => exact ⟨⟨[], rfl⟩, Nat.min_le_right ..⟩
  | cons b rest ih =>
    unfold peekNodes
    split
    · refine ⟨⟨rest, rfl⟩, Nat.le_trans (Nat.min_le_left ..) ?_⟩
      rw [List.flatten_cons, List.flatten_nil, List.append_nil]
      assumption
    · obtain ⟨⟨r, hr⟩, h2⟩ := ih (cum + b.length)
      refine ⟨⟨r, by rw [List.cons_append, ← hr]⟩, ?_⟩
      rw [List.flatten_cons, List.flatten_cons, List.length_append, List.length_append, ← Nat.add_assoc, ← Nat.add_assoc]
      exact h2

theorem discardLoop_spec (nodes : List Bytes) (size bytes n d : Nat)
    (hs : size = nodes.length) (hb : bytes = nodes.flatten.length) :
    let res := discardLoop nodes size bytes n d
    res.2.1 = res.1.length ∧ res.2.2.1 = res.1.flatten.length ∧
    res.1.flatten = nodes.flatten.drop n ∧ res.2.2.2 = d + min n nodes.flatten.length := by
  subst hs hb
  induction nodes generalizing n d with
  | nil => exact ⟨rfl, rfl, List.drop_nil.symm, (Nat.min_zero n).symm ▸ rfl⟩
  | cons b rest ih =>
    rw [discardLoop, List.flatten_cons, List.length_append]
    split
    · rename_i h0; subst h0
      exact ⟨rfl, (List.length_append ..).symm, rfl, (Nat.zero_min _).symm ▸ rfl⟩
    · split
      · rename_i hlt
        refine ⟨rfl, ?_, (List.drop_append_of_le_length (Nat.le_of_lt hlt)).symm,
          congrArg (d + ·) (Nat.min_eq_left (Nat.le_trans (Nat.le_of_lt hlt) (Nat.le_add_right ..))).symm⟩
        show _ = (b.drop n ++ rest.flatten).length
        rw [List.length_append, List.length_drop, Nat.add_sub_cancel_left, Nat.add_comm]
      · rename_i hge
        rw [List.length_cons, Nat.add_sub_cancel, Nat.add_sub_cancel_left]
        obtain ⟨h1, h2, h3, h4⟩ := ih (n - b.length) (d + b.length)
        refine ⟨h1, h2, ?_, ?_⟩
        · rw [h3, List.drop_append, List.drop_of_length_le (Nat.le_of_not_lt hge), List.nil_append]
        · rw [h4, Nat.add_assoc, ← Nat.add_min_add_left, Nat.add_sub_cancel' (Nat.le_of_not_lt hge)]

theorem discard_spec (l : LL) (h : LInv l) (n : Int) :
    LInv (LList.discard l n).1 ∧ content (LList.discard l n).1 = (content l).drop n.toNat ∧
    (LList.discard l n).2 = min n.toNat (content l).length := by
  unfold LList.discard
  by_cases hn : n ≤ 0
  · rw [if_pos hn, Int.toNat_eq_zero.mpr hn]
    exact ⟨h, rfl, (Nat.zero_min _).symm⟩
  · rw [if_neg hn]
    obtain ⟨h1, h2, h3, h4⟩ := discardLoop_spec l.nodes l.size l.bytes n.toNat 0 h.size h.bytes
    exact ⟨⟨h1, h2⟩, h3, h4.trans (Nat.zero_add _)⟩

theorem discardLoop_zero (nodes : List Bytes) (size bytes d : Nat) :
    discardLoop nodes size bytes 0 d = (nodes, size, bytes, d) := by
  cases nodes <;> rfl

theorem readLoop_eq (nodes : List Bytes) (size bytes k d : Nat) (acc : Bytes) (hk : 0 < k) :
    readLoop nodes size bytes k acc =
      ((discardLoop nodes size bytes k d).1, (discardLoop nodes size bytes k d).2.1,
        (discardLoop nodes size bytes k d).2.2.1, acc ++ nodes.flatten.take k) := by
  induction nodes generalizing size bytes k d acc with
  | nil => rw [readLoop, discardLoop, List.flatten_nil, List.take_nil, List.append_nil]
  | cons b rest ih =>
    rw [readLoop, discardLoop, if_neg (Nat.ne_of_gt hk), List.flatten_cons]
    by_cases hlt : k < b.length
    · rw [Nat.min_eq_right (Nat.le_of_lt hlt), if_pos hlt, if_pos hlt, List.take_append_of_le_length (Nat.le_of_lt hlt)]
    · have hle := Nat.le_of_not_lt hlt
      rw [Nat.min_eq_left hle, if_neg (Nat.lt_irrefl _), if_neg hlt, List.take_append, List.take_of_length_le hle,
        ← List.append_assoc]
      split
      · rename_i hz
        rw [hz, discardLoop_zero, List.take_zero, List.append_nil]
      · exact ih _ _ _ _ _ (Nat.pos_of_ne_zero ‹_›)

theorem read_spec (l : LL) (h : LInv l) (k : Nat) :
    LInv (LList.read l k).1 ∧ content (LList.read l k).1 = (content l).drop k ∧ (LList.read l k).2 = (content l).take k := by
  unfold LList.read
  by_cases hk : k = 0
  · rw [if_pos hk, hk]
    exact ⟨h, rfl, rfl⟩
  · rw [if_neg hk, readLoop_eq _ _ _ _ 0 _ (Nat.pos_of_ne_zero hk)]
    obtain ⟨h1, h2, h3, _⟩ := discardLoop_spec l.nodes l.size l.bytes k 0 h.size h.bytes
    exact ⟨⟨h1, h2⟩, h3, rfl⟩

/-- the first loop of `PeekWithBytes` returns a prefix of the extra slices (empty ones dropped); it reports `none`
    only once the running total has reached the limit, and else the total after all of them -/
theorem peekExtra_spec (bs : List Bytes) (cum max : Nat) {pre : List Bytes} {c : Option Nat}
    (h : peekExtra bs cum max = (pre, c)) :
    (∃ rest, bs.flatten = pre.flatten ++ rest) ∧ (c = none → max ≤ cum + pre.flatten.length) ∧
    (∀ c', c = some c' → pre.flatten = bs.flatten ∧ c' = cum + bs.flatten.length) := by
  induction bs generalizing cum pre with
  | nil =>
    obtain ⟨rfl, rfl⟩ := Prod.mk.inj h
    exact ⟨⟨[], rfl⟩, nofun, fun c h => ⟨rfl, (Option.some.inj h).symm⟩⟩
  | cons b rest ih =>
    rw [peekExtra] at h
    split at h
    · split at h
      · obtain ⟨rfl, rfl⟩ := Prod.mk.inj h
        simp only [List.flatten_cons, List.flatten_nil, List.append_nil]
        exact ⟨⟨rest.flatten, rfl⟩, fun _ => ‹_›, nofun⟩
      · cases hr : peekExtra rest (cum + b.length) max with
        | mk l c' =>
          rw [hr] at h
          obtain ⟨rfl, rfl⟩ := Prod.mk.inj h
          obtain ⟨⟨r, hr⟩, h1, h2⟩ := ih _ hr
          simp only [List.flatten_cons, List.length_append, ← Nat.add_assoc]
          exact ⟨⟨r, by rw [hr, List.append_assoc]⟩, h1, fun c h => ⟨congrArg (b ++ ·) (h2 c h).1, (h2 c h).2⟩⟩
    · rename_i hb
      rw [List.eq_nil_of_length_eq_zero (Nat.eq_zero_of_not_pos hb)]
      exact ih cum h

/-- **`PeekWithBytes(n, bs...)`**: a prefix of the extra slices followed by the queue, covering `n` bytes or all -/
theorem peekWithBytes_spec (l : LL) (n : Int) (bs : List Bytes) :
    (∃ rest, bs.flatten ++ content l = (peekWithBytes l n bs).flatten ++ rest) ∧
    min (clampMax n) (bs.flatten ++ content l).length ≤ (peekWithBytes l n bs).flatten.length := by
  unfold peekWithBytes
  cases hx : peekExtra bs 0 (clampMax n) with
  | mk pre c =>
    obtain ⟨⟨r, hr⟩, h1, h2⟩ := peekExtra_spec bs 0 (clampMax n) hx
    simp only [Nat.zero_add] at h1 h2
    cases c with
    | none => exact ⟨⟨r ++ content l, by rw [hr, List.append_assoc]⟩, Nat.le_trans (Nat.min_le_left ..) (h1 rfl)⟩
    | some c =>
      obtain ⟨h3, rfl⟩ := h2 c rfl
      obtain ⟨⟨r2, hr2⟩, h5⟩ := peekNodes_spec l.nodes bs.flatten.length (clampMax n)
      dsimp only
      rw [List.flatten_append, h3, List.length_append, List.length_append]
      refine ⟨⟨r2.flatten, ?_⟩, h5⟩
      rw [List.append_assoc, ← List.flatten_append, ← hr2]; rfl

/-- **`Peek(n)`**: what is returned, concatenated, is a prefix of the queue, and it covers the `n` bytes asked for
    (or everything there is) -/
theorem peek_spec (l : LL) (n : Int) :
    (∃ rest, content l = (peek l n).flatten ++ rest) ∧
    min (clampMax n) (content l).length ≤ (peek l n).flatten.length :=
  peekWithBytes_spec l n []

end RcVerif.Lemmas.LListBuf
