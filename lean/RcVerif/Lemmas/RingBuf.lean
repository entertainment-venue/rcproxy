import RcVerif.Model.Ring
/-
  `ring.Buffer` refines a FIFO byte queue: for a well-formed ring (`Inv`), `content` is the queue and every
  operation of the model does to it what the ideal queue operation does - including wrap-around and growth.
  The idea: a well-formed ring holds `n` bytes (`Holds`), namely the slab read cyclically from `r` (`seg`), and `w`
  is `(r + n) % size`; reads move `r`, writes move `w`, and the wrap-around is in the few lemmas about `seg`.
-/
namespace RcVerif.Lemmas.RingBuf
open RcVerif RcVerif.Ring

structure Inv (rb : Ring) : Prop where
  len : rb.buf.length = rb.size
  empty : rb.isEmpty = true → rb.r = 0 ∧ rb.w = 0
  zero : rb.size = 0 → rb.isEmpty = true
  rlt : 0 < rb.size → rb.r < rb.size
  wlt : 0 < rb.size → rb.w < rb.size

/-! ### the slab read cyclically -/

/-- `n` bytes of the slab `b` read cyclically from position `r` (`r ≤ b.length`, `n ≤ b.length`) -/
def seg (b : Bytes) (r n : Nat) : Bytes := ((b ++ b).drop r).take n

variable {b p : Bytes} {s r n w k : Nat}

theorem take_seg (b : Bytes) (r n k : Nat) : (seg b r n).take k = seg b r (min k n) := List.take_take

theorem drop_seg (b : Bytes) (r n k : Nat) : (seg b r n).drop k = seg b (r + k) (n - k) := by
  simp only [seg, List.drop_take, List.drop_drop]

theorem seg_length (hl : b.length = s) (h : r + n ≤ s + s) : (seg b r n).length = n := by
  subst hl
  rw [seg, List.length_take, List.length_drop, List.length_append]
  exact Nat.min_eq_left (Nat.le_sub_of_add_le' h)

theorem seg_of_le (hl : b.length = s) (h : r + n ≤ s) : seg b r n = slice b r (r + n) := by
  subst hl
  rw [seg, slice, List.drop_append_of_le_length (Nat.le_trans (Nat.le_add_right r n) h), Nat.add_sub_cancel_left,
    List.take_append_of_le_length (by rw [List.length_drop]; exact Nat.le_sub_of_add_le' h)]

theorem seg_of_ge (hl : b.length = s) (hr : r ≤ s) (h : s - r ≤ n) :
    seg b r n = b.drop r ++ b.take (n - (s - r)) := by
  subst hl
  rw [seg, List.drop_append_of_le_length hr, List.take_append, List.length_drop,
    List.take_of_length_le (by rw [List.length_drop]; exact h)]

theorem seg_add_length (hl : b.length = s) (h : r + n ≤ s) : seg b (r + s) n = seg b r n := by
  subst hl
  rw [seg, seg, List.drop_append, List.drop_of_length_le (Nat.le_add_left ..), List.nil_append, Nat.add_sub_cancel,
    List.drop_append_of_le_length (Nat.le_trans (Nat.le_add_right r n) h),
    List.take_append_of_le_length (by rw [List.length_drop]; exact Nat.le_sub_of_add_le' h)]

/-- a cursor below `s + s` taken modulo `s`, without `%` -/
theorem mod_cases {x s : Nat} (h : x < s + s) : x < s ∧ x % s = x ∨ s ≤ x ∧ x % s + s = x := by
  rcases Nat.lt_or_ge x s with h1 | h1
  · exact Or.inl ⟨h1, Nat.mod_eq_of_lt h1⟩
  · refine Or.inr ⟨h1, ?_⟩
    rw [Nat.mod_eq_sub_mod h1, Nat.mod_eq_of_lt (Nat.sub_lt_left_of_lt_add h1 h), Nat.sub_add_cancel h1]

theorem seg_mod (hl : b.length = s) (h : r + n ≤ s + s) : seg b (r % s) n = seg b r n := by
  rcases Nat.lt_or_ge r (s + s) with h2 | h2
  · rcases mod_cases h2 with ⟨_, e⟩ | ⟨h1, e⟩
    · rw [e]
    · rw [← seg_add_length hl (r := r % s) (Nat.le_of_add_le_add_right (by rw [Nat.add_right_comm, e]; exact h)), e]
  · have : n = 0 := by omega
    subst this; rfl

/-- a cursor that is set back to `0` on reaching `s` -/
theorem ite_eq_mod {x s : Nat} (h : x ≤ s) : (if x = s then 0 else x) = x % s := by
  split
  · rename_i e; rw [e, Nat.mod_self]
  · rw [Nat.mod_eq_of_lt (Nat.lt_of_le_of_ne h ‹_›)]

/-- the write cursor after a copy of `m` bytes in two pieces, `s - w` of them up to the end of the slab -/
theorem wrap_cursor {w m s : Nat} (hw : w ≤ s) (hc : s - w < m) (hm : m ≤ s) :
    (if m - (s - w) = s then 0 else m - (s - w)) = (w + m) % s := by
  rw [ite_eq_mod (Nat.le_trans (Nat.sub_le ..) hm)]
  conv => rhs; rw [← Nat.add_sub_cancel' (Nat.le_of_lt hc), ← Nat.add_assoc, Nat.add_sub_cancel' hw, Nat.add_mod_left]

/-! ### what a well-formed ring holds -/

/-- the ring holds `n` bytes: the slab read cyclically from `r`, `w` being where the next byte goes -/
structure Holds (rb : Ring) (n : Nat) : Prop where
  len : rb.buf.length = rb.size
  le : n ≤ rb.size
  empty : rb.isEmpty = true ↔ n = 0
  r0 : n = 0 → rb.r = 0
  rlt : 0 < rb.size → rb.r < rb.size
  w : rb.w = (rb.r + n) % rb.size

variable {rb : Ring}

theorem Holds.nonempty (H : Holds rb n) (hn : 0 < n) : ¬ rb.isEmpty = true :=
  fun h => Nat.ne_of_gt hn (H.empty.mp h)

theorem holds_zero (hl : rb.buf.length = rb.size) (he : rb.isEmpty = true) (hr : rb.r = 0) (hw : rb.w = 0) : Holds rb 0 :=
  ⟨hl, Nat.zero_le _, ⟨fun _ => rfl, fun _ => he⟩, fun _ => hr, fun hs => hr ▸ hs, by rw [hw, hr]; exact (Nat.zero_mod _).symm⟩

theorem holds_pos (hl : rb.buf.length = rb.size) (hn : n ≠ 0) (hle : n ≤ rb.size) (he : ¬ rb.isEmpty = true)
    (hr : 0 < rb.size → rb.r < rb.size) (hw : rb.w = (rb.r + n) % rb.size) : Holds rb n :=
  ⟨hl, hle, ⟨fun h => absurd h he, fun h => absurd h hn⟩, fun h => absurd h hn, hr, hw⟩

/-- where `w` is: ahead of `r` with the `n` bytes between them, or behind it with the `n` bytes around the end of the
    slab (on top of it when the ring is full) -/
theorem Holds.w_cases (H : Holds rb n) (hs : 0 < rb.size) :
    rb.r + n < rb.size ∧ rb.w = rb.r + n ∨ rb.w ≤ rb.r ∧ rb.size - rb.r + rb.w = n := by
  have hr := H.rlt hs
  rw [H.w]
  rcases mod_cases (Nat.add_lt_add_of_lt_of_le hr H.le) with ⟨h1, e⟩ | ⟨_, e⟩
  · exact Or.inl ⟨h1, e⟩
  · refine Or.inr ⟨Nat.le_of_add_le_add_right (e ▸ Nat.add_le_add_left H.le _), Nat.add_left_cancel (n := rb.r) ?_⟩
    rw [← Nat.add_assoc, Nat.add_sub_cancel' (Nat.le_of_lt hr), Nat.add_comm, e]

theorem Holds.ne (H : Holds rb n) (h0 : 0 < n) (hlt : n < rb.size) : rb.r ≠ rb.w := by
  rcases H.w_cases (Nat.zero_lt_of_lt hlt) with ⟨_, h2⟩ | ⟨_, h2⟩
  · exact Nat.ne_of_lt (h2 ▸ Nat.lt_add_of_pos_right h0)
  · intro e
    rw [← e, Nat.sub_add_cancel (Nat.le_of_lt (H.rlt (Nat.zero_lt_of_lt hlt)))] at h2
    exact Nat.ne_of_lt hlt h2.symm

theorem Holds.inv (H : Holds rb n) : Inv rb where
  len := H.len
  empty he := by
    have h0 := H.empty.mp he
    refine ⟨H.r0 h0, ?_⟩
    rw [H.w, H.r0 h0, h0]; exact Nat.zero_mod _
  zero hs := H.empty.mpr (Nat.le_zero.mp (hs ▸ H.le))
  rlt := H.rlt
  wlt hs := H.w ▸ Nat.mod_lt _ hs

theorem Inv.holds (h : Inv rb) : Holds rb (buffered rb) := by
  rw [Ring.buffered]
  by_cases he : rb.isEmpty = true
  · obtain ⟨h1, h2⟩ := h.empty he
    rw [if_pos (h1.trans h2.symm), if_pos he]
    exact holds_zero h.len he h1 h2
  · have hs : 0 < rb.size := Nat.pos_of_ne_zero fun h0 => he (h.zero h0)
    have hr := h.rlt hs
    have hw := h.wlt hs
    rcases Nat.lt_trichotomy rb.r rb.w with hlt | e | hlt
    · rw [if_neg (Nat.ne_of_lt hlt), if_pos hlt]
      exact holds_pos h.len (Nat.sub_ne_zero_of_lt hlt) (Nat.le_trans (Nat.sub_le _ _) (Nat.le_of_lt hw)) he h.rlt
        (by rw [Nat.add_sub_cancel' (Nat.le_of_lt hlt), Nat.mod_eq_of_lt hw])
    · rw [if_pos e, if_neg he]
      exact holds_pos h.len (Nat.ne_of_gt hs) (Nat.le_refl _) he h.rlt (by rw [Nat.add_mod_right, ← e, Nat.mod_eq_of_lt hr])
    · rw [if_neg (Nat.ne_of_gt hlt), if_neg (Nat.lt_asymm hlt)]
      exact holds_pos h.len (Nat.ne_of_gt (Nat.add_pos_left (Nat.sub_pos_of_lt hr) _))
        (Nat.le_trans (Nat.add_le_add_left (Nat.le_of_lt hlt) _) (Nat.le_of_eq (Nat.sub_add_cancel (Nat.le_of_lt hr)))) he h.rlt
        (by rw [← Nat.add_assoc, Nat.add_sub_cancel' (Nat.le_of_lt hr), Nat.add_mod_left, Nat.mod_eq_of_lt hw])

theorem available_add_buffered (rb : Ring) (h : Inv rb) : available rb + buffered rb = rb.size := by
  have ⟨hr, hw⟩ : rb.r ≤ rb.size ∧ rb.w ≤ rb.size := by
    rcases Nat.eq_zero_or_pos rb.size with hs | hs
    · obtain ⟨h1, h2⟩ := h.empty (h.zero hs)
      exact ⟨h1 ▸ Nat.zero_le _, h2 ▸ Nat.zero_le _⟩
    · exact ⟨Nat.le_of_lt (h.rlt hs), Nat.le_of_lt (h.wlt hs)⟩
  rw [Ring.available, Ring.buffered]
  rcases Nat.lt_trichotomy rb.r rb.w with hlt | e | hlt
  · rw [if_neg (Nat.ne_of_lt hlt), if_neg (Nat.ne_of_lt hlt), if_neg (Nat.lt_asymm hlt), if_pos hlt, Nat.add_assoc,
      Nat.add_sub_cancel' (Nat.le_of_lt hlt), Nat.sub_add_cancel hw]
  · rw [if_pos e, if_pos e]
    split
    · exact Nat.add_zero _
    · exact Nat.zero_add _
  · rw [if_neg (Nat.ne_of_gt hlt), if_neg (Nat.ne_of_gt hlt), if_pos hlt, if_neg (Nat.lt_asymm hlt),
      Nat.add_comm (rb.size - rb.r), ← Nat.add_assoc, Nat.sub_add_cancel (Nat.le_of_lt hlt), Nat.add_sub_cancel' hr]

theorem Holds.content (H : Holds rb n) : Ring.content rb = seg rb.buf rb.r n := by
  unfold Ring.content
  rcases Nat.eq_zero_or_pos n with h0 | h0
  · rw [if_pos (H.empty.mpr h0), h0]; rfl
  · have hs := Nat.lt_of_lt_of_le h0 H.le
    rw [if_neg (H.nonempty h0)]
    rcases H.w_cases hs with ⟨h1, h2⟩ | ⟨h1, h2⟩
    · rw [if_pos (h2 ▸ Nat.lt_add_of_pos_right h0), seg_of_le H.len (Nat.le_of_lt h1), h2]
    · rw [if_neg (Nat.not_lt.mpr h1), seg_of_ge H.len (Nat.le_of_lt (H.rlt hs)) (h2 ▸ Nat.le_add_right _ _)]
      rw [← h2, Nat.add_sub_cancel_left]

theorem Holds.two_le (H : Holds rb n) : rb.r + n ≤ rb.size + rb.size := by
  rcases Nat.eq_zero_or_pos n with h0 | h0
  · rw [H.r0 h0, h0]; exact Nat.zero_le _
  · exact Nat.add_le_add (Nat.le_of_lt (H.rlt (Nat.lt_of_lt_of_le h0 H.le))) H.le

theorem content_length (rb : Ring) (h : Inv rb) : (content rb).length = buffered rb := by
  rw [h.holds.content, seg_length h.len h.holds.two_le]

theorem isEmpty_iff (rb : Ring) (h : Inv rb) : rb.isEmpty = true ↔ content rb = [] := by
  rw [h.holds.empty, ← content_length rb h, List.length_eq_zero_iff]

theorem available_eq (rb : Ring) (h : Inv rb) : available rb = rb.size - buffered rb :=
  Nat.eq_sub_of_add_eq (available_add_buffered rb h)

/-! ### reading -/

theorem Holds.peek (H : Holds rb n) {k : Int} (hk : 0 < k) :
    (peek rb k).1 ++ (peek rb k).2 = seg rb.buf rb.r (min k.toNat n) := by
  unfold Ring.peek
  rcases Nat.eq_zero_or_pos n with h0 | h0
  · rw [if_pos (H.empty.mpr h0), h0, Nat.min_zero]; rfl
  · have hs := Nat.lt_of_lt_of_le h0 H.le
    rw [if_neg (H.nonempty h0), if_neg (Int.not_le.mpr hk), Nat.min_comm]
    dsimp only
    rcases H.w_cases hs with ⟨h1, h2⟩ | ⟨h1, h2⟩
    · rw [if_pos (h2 ▸ Nat.lt_add_of_pos_right h0), List.append_nil, h2, Nat.add_sub_cancel_left,
        seg_of_le H.len (Nat.le_trans (Nat.add_le_add_left (Nat.min_le_left _ _) _) (Nat.le_of_lt h1))]
    · have hr := Nat.le_of_lt (H.rlt hs)
      rw [if_neg (Nat.not_lt.mpr h1), h2]
      split
      · rw [List.append_nil, seg_of_le H.len ‹_›]
      · rw [seg_of_ge H.len hr (Nat.le_of_lt (Nat.sub_lt_left_of_lt_add hr (Nat.lt_of_not_le ‹_›)))]

theorem peekAll_eq (rb : Ring) : (peekAll rb).1 ++ (peekAll rb).2 = content rb := by
  rw [peekAll, Ring.content]
  by_cases he : rb.isEmpty = true
  · rw [if_pos he, if_pos he]; rfl
  · rw [if_neg he, if_neg he]
    by_cases hwr : rb.w > rb.r
    · rw [if_pos hwr, if_pos hwr]; exact List.append_nil _
    · rw [if_neg hwr, if_neg hwr]
      split
      · rfl
      · rename_i h0
        rw [Decidable.not_not.mp h0]; rfl

/-- the bytes `Peek(n)` returns, head then tail, are the first `n` buffered bytes (all of them for `n ≤ 0`) -/
theorem peek_spec (rb : Ring) (h : Inv rb) (n : Int) :
    (peek rb n).1 ++ (peek rb n).2 = if n ≤ 0 then content rb else (content rb).take n.toNat := by
  split
  · rename_i hn
    unfold Ring.peek
    rw [if_pos hn]
    split
    · rename_i he; rw [Ring.content, if_pos he]; rfl
    · exact peekAll_eq rb
  · rw [h.holds.peek (Int.not_le.mp ‹_›), h.holds.content, take_seg]

theorem Holds.advance (H : Holds rb n) (hk : k < n) :
    Holds { rb with r := (rb.r + k) % rb.size } (n - k) ∧
    Ring.content { rb with r := (rb.r + k) % rb.size } = (Ring.content rb).drop k := by
  have H' : Holds { rb with r := (rb.r + k) % rb.size } (n - k) :=
    holds_pos H.len (Nat.sub_ne_zero_of_lt hk) (Nat.le_trans (Nat.sub_le _ _) H.le) (H.nonempty (Nat.zero_lt_of_lt hk))
      (fun hs => Nat.mod_lt _ hs) (by
        show rb.w = ((rb.r + k) % rb.size + (n - k)) % rb.size
        rw [Nat.mod_add_mod, Nat.add_assoc, Nat.add_sub_cancel' (Nat.le_of_lt hk), H.w])
  refine ⟨H', ?_⟩
  rw [H'.content, H.content, drop_seg]
  exact seg_mod H.len (by rw [Nat.add_assoc, Nat.add_sub_cancel' (Nat.le_of_lt hk)]; exact H.two_le)

theorem inv_reset (rb : Ring) (h : Inv rb) : Inv (reset rb) := (holds_zero (rb := reset rb) h.len rfl rfl rfl).inv

theorem content_reset (rb : Ring) : content (reset rb) = [] := rfl

/-- `Discard(n)` drops exactly the first `n` buffered bytes (all of them if fewer are buffered) and reports how many -/
theorem discard_spec (rb : Ring) (h : Inv rb) (n : Int) :
    Inv (Ring.discard rb n).1 ∧
    content (Ring.discard rb n).1 = (content rb).drop n.toNat ∧
    (Ring.discard rb n).2 = min n.toNat (content rb).length := by
  rw [content_length rb h]
  unfold Ring.discard
  split
  · rename_i hn
    rw [Int.toNat_eq_zero.mpr hn]
    exact ⟨h, rfl, (Nat.zero_min _).symm⟩
  · dsimp only
    split
    · rename_i hlt
      obtain ⟨H', hc⟩ := h.holds.advance hlt
      exact ⟨H'.inv, hc, (Nat.min_eq_left (Nat.le_of_lt hlt)).symm⟩
    · rename_i hge
      refine ⟨inv_reset rb h, ?_, (Nat.min_eq_right (Nat.le_of_not_lt hge)).symm⟩
      rw [content_reset, List.drop_of_length_le (content_length rb h ▸ Nat.le_of_not_lt hge)]

/-- where a reader that took `min n k` bytes leaves the ring: it is reset once the cursors meet, which is when all `n`
    bytes were taken -/
theorem Holds.taken (H : Holds rb n) (hk : 0 < k) {x : Nat} (hx : x = (rb.r + min n k) % rb.size) :
    (if x = rb.w then reset { rb with r := x } else { rb with r := x }) =
      if k < n then { rb with r := (rb.r + k) % rb.size } else reset rb := by
  subst hx
  by_cases hkn : k < n
  · rw [if_pos hkn, Nat.min_eq_right (Nat.le_of_lt hkn),
      if_neg ((H.advance hkn).1.ne (Nat.sub_pos_of_lt hkn) (Nat.lt_of_lt_of_le (Nat.sub_lt (Nat.zero_lt_of_lt hkn) hk) H.le))]
  · rw [if_neg hkn, Nat.min_eq_left (Nat.le_of_not_lt hkn), ← H.w, if_pos rfl]; rfl

theorem read_out (rb : Ring) (hk : 0 < k) (he : ¬ rb.isEmpty = true) :
    (Ring.read rb k).2 = ((peek rb k).1 ++ (peek rb k).2, false) := by
  rw [Ring.read, Ring.peek, if_neg (Nat.ne_of_gt hk), if_neg he, if_neg he, if_neg (Int.not_le.mpr (Int.natCast_pos.mpr hk))]
  by_cases hwr : rb.w > rb.r
  · rw [if_pos hwr, if_pos hwr]
    exact congrArg (·, false) (List.append_nil _).symm
  · rw [if_neg hwr, if_neg hwr]
    dsimp only [Int.toNat_natCast]
    split
    · rw [List.append_nil]
    · rfl

theorem Holds.read_fst (H : Holds rb n) (hn : 0 < n) (hk : 0 < k) :
    (Ring.read rb k).1 = if k < n then { rb with r := (rb.r + k) % rb.size } else reset rb := by
  rw [Ring.read, if_neg (Nat.ne_of_gt hk), if_neg (H.nonempty hn)]
  rcases H.w_cases (Nat.lt_of_lt_of_le hn H.le) with ⟨h1, h2⟩ | ⟨h1, h2⟩
  · rw [if_pos (h2 ▸ Nat.lt_add_of_pos_right hn)]
    dsimp only
    refine H.taken hk ?_
    rw [h2, Nat.add_sub_cancel_left,
      Nat.mod_eq_of_lt (Nat.lt_of_le_of_lt (Nat.add_le_add_left (Nat.min_le_left _ _) _) h1)]
  · rw [if_neg (Nat.not_lt.mpr h1)]
    dsimp only
    exact H.taken hk (by rw [h2])

/-- `Read(p)` copies what `Peek(len p)` shows and leaves what `Discard(len p)` leaves -/
theorem read_eq (rb : Ring) (h : Inv rb) (k : Nat) (hk : 0 < k) (he : ¬ rb.isEmpty = true) :
    (Ring.read rb k).1 = (Ring.discard rb k).1 ∧ (Ring.read rb k).2.1 = (peek rb k).1 ++ (peek rb k).2 ∧ (Ring.read rb k).2.2 = false := by
  have H := h.holds
  rw [read_out rb hk he, H.read_fst (Nat.pos_of_ne_zero fun h0 => he (H.empty.mpr h0)) hk, Ring.discard,
    if_neg (Int.not_le.mpr (Int.natCast_pos.mpr hk))]
  refine ⟨?_, rfl, rfl⟩
  dsimp only [Int.toNat_natCast]
  split <;> rfl

theorem read_spec (rb : Ring) (h : Inv rb) (k : Nat) :
    Inv (Ring.read rb k).1 ∧ content (Ring.read rb k).1 = (content rb).drop k ∧
    (Ring.read rb k).2.1 = (content rb).take k := by
  rcases Nat.eq_zero_or_pos k with hk | hk
  · subst hk; exact ⟨h, rfl, rfl⟩
  · by_cases he : rb.isEmpty = true
    · rw [Ring.read, if_neg (Nat.ne_of_gt hk), if_pos he, (isEmpty_iff rb h).mp he]
      exact ⟨h, List.drop_nil.symm, List.take_nil.symm⟩
    · obtain ⟨h1, h2, _⟩ := read_eq rb h k hk he
      rw [h1, h2, peek_spec rb h k, if_neg (Int.not_le.mpr (Int.natCast_pos.mpr hk))]
      exact ⟨(discard_spec rb h k).1, (discard_spec rb h k).2.1, rfl⟩

theorem readByte_eq (rb : Ring) (h : Inv rb) :
    readByte rb = ((Ring.read rb 1).1, (Ring.read rb 1).2.1.head?) := by
  have H := h.holds
  unfold Ring.readByte
  by_cases he : rb.isEmpty = true
  · rw [if_pos he, Ring.read, if_neg Nat.one_ne_zero, if_pos he]; rfl
  · have hn : 0 < buffered rb := Nat.pos_of_ne_zero fun h0 => he (H.empty.mpr h0)
    have hr := H.rlt (Nat.lt_of_lt_of_le hn H.le)
    rw [if_neg he, H.read_fst hn Nat.one_pos, read_out rb Nat.one_pos he, H.peek (Int.natCast_pos.mpr Nat.one_pos)]
    dsimp only [Int.toNat_natCast]
    congr 1
    · exact H.taken Nat.one_pos (by rw [Nat.min_eq_right hn, ite_eq_mod hr])
    · rw [Nat.min_eq_left hn, seg, List.head?_take, if_neg Nat.one_ne_zero, List.head?_drop,
        List.getElem?_append_left (H.len ▸ hr)]

/-! ### writing -/

theorem blit_length (hl : b.length = s) (h : w + p.length ≤ s) : (blit b w p).length = s := by
  subst hl
  rw [blit, List.length_append, List.length_append, List.length_take, List.length_drop,
    Nat.min_eq_left (Nat.le_trans (Nat.le_add_right ..) h), Nat.add_sub_cancel' h]

theorem take_blit (hl : b.length = s) (h : w ≤ s) : (blit b w p).take (w + p.length) = b.take w ++ p :=
  List.take_left' (by rw [List.length_append, List.length_take, Nat.min_eq_left (hl ▸ h)])

theorem drop_blit (hl : b.length = s) (hw : w ≤ s) (h : w + p.length ≤ r) : (blit b w p).drop r = b.drop r := by
  have e : (b.take w ++ p).length = w + p.length := by
    rw [List.length_append, List.length_take, Nat.min_eq_left (hl ▸ hw)]
  rw [blit, List.drop_append, List.drop_of_length_le (e ▸ h), e, List.drop_drop, Nat.add_sub_cancel' h]; rfl

/-- with the `n` bytes around the end of the slab, room for `m` more is room between `w` and `r` -/
theorem room_behind {m : Nat} (hr : r ≤ s) (h : s - r + w = n) (hn : n + m ≤ s) : w + m ≤ r := by
  refine Nat.le_of_add_le_add_left (a := s - r) ?_
  rw [← Nat.add_assoc, h, Nat.sub_add_cancel hr]; exact hn

/-- writing `p` where the `n` bytes read cyclically from `r` end, without running over the end of the slab,
    makes them `n + p.length` bytes ending in `p` -/
theorem seg_blit (hl : b.length = s) (hr : r < s) (hn : n + p.length ≤ s) (hw : w + p.length ≤ s)
    (h : r + n < s ∧ w = r + n ∨ w ≤ r ∧ s - r + w = n) :
    seg (blit b w p) r (n + p.length) = seg b r n ++ p := by
  have hl' := blit_length hl hw
  have hrs := Nat.le_of_lt hr
  rcases h with ⟨h1, h2⟩ | ⟨h1, h2⟩
  · subst h2 hl
    rw [seg_of_le hl' (Nat.add_assoc .. ▸ hw), seg_of_le rfl (Nat.le_of_lt h1), slice, slice, blit, List.append_assoc,
      List.drop_append_of_le_length (by rw [List.length_take]; exact Nat.le_min.mpr ⟨Nat.le_add_right .., hrs⟩),
      List.drop_take, Nat.add_sub_cancel_left, Nat.add_sub_cancel_left, ← List.append_assoc]
    exact List.take_left' (by
      rw [List.length_append, List.length_take, List.length_drop, Nat.min_eq_left (Nat.le_sub_of_add_le' (Nat.le_of_lt h1))])
  · subst h2
    have hwr := room_behind hrs rfl hn
    have hws := Nat.le_trans h1 hrs
    rw [seg_of_ge hl' hrs (Nat.le_trans (Nat.le_add_right ..) (Nat.le_add_right ..)), seg_of_ge hl hrs (Nat.le_add_right ..),
      Nat.add_assoc, Nat.add_sub_cancel_left, Nat.add_sub_cancel_left, drop_blit hl hws hwr, take_blit hl hws, List.append_assoc]

/-- the same when `p` runs over the end of the slab and is copied in two pieces: `c` bytes up to the end, the rest from
    the start -/
theorem seg_blit_wrap {c : Nat} (hl : b.length = s) (hn : n + p.length ≤ s) (hw : w = r + n) (hwc : w + c = s) (h0 : 0 < c)
    (hc : c < p.length) :
    (blit (blit b w (p.take c)) 0 (p.drop c)).length = s ∧
    seg (blit (blit b w (p.take c)) 0 (p.drop c)) r (n + p.length) = seg b r n ++ p := by
  have h1 : (p.take c).length = c := List.length_take_of_le (Nat.le_of_lt hc)
  have hp : p.take c ++ p.drop c = p := List.take_append_drop ..
  generalize p.take c = p1 at h1 hp
  generalize p.drop c = p2 at hp
  subst hp h1 hw
  rw [List.length_append] at hn hc ⊢
  have a4 : r + n < s := hwc ▸ Nat.lt_add_of_pos_right h0
  have a2 : r < s := Nat.lt_of_le_of_lt (Nat.le_add_right ..) a4
  have a3 : n + p1.length + p2.length ≤ s := Nat.add_assoc .. ▸ hn
  have a1 : 0 + p2.length ≤ s := Nat.zero_add _ ▸ Nat.le_trans (Nat.le_add_left ..) (Nat.le_trans (Nat.le_add_left ..) hn)
  have hb1 := blit_length hl (Nat.le_of_eq hwc)
  refine ⟨blit_length hb1 a1, ?_⟩
  rw [← Nat.add_assoc, seg_blit hb1 a2 a3 a1 (Or.inr ⟨Nat.zero_le _, Nat.sub_eq_of_eq_add' (Nat.add_assoc .. ▸ hwc.symm)⟩),
    seg_blit hl a2 (Nat.le_trans (Nat.le_add_right ..) a3) (Nat.le_of_eq hwc) (Or.inl ⟨a4, rfl⟩), List.append_assoc]

theorem writeCore_fit (h : rb.w + p.length ≤ rb.size) :
    writeCore rb p = { rb with buf := blit rb.buf rb.w p,
                               w := if rb.w + p.length = rb.size then 0 else rb.w + p.length, isEmpty := false } := by
  by_cases hwr : rb.w ≥ rb.r
  · simp only [Ring.writeCore, if_pos hwr, if_pos (Nat.le_sub_of_add_le' h)]
  · simp only [Ring.writeCore, if_neg hwr]

theorem writeCore_wrap (hwr : rb.w ≥ rb.r) (h : ¬ rb.size - rb.w ≥ p.length) :
    writeCore rb p = { rb with buf := blit (blit rb.buf rb.w (p.take (rb.size - rb.w))) 0 (p.drop (rb.size - rb.w)),
                               w := if p.length - (rb.size - rb.w) = rb.size then 0 else p.length - (rb.size - rb.w),
                               isEmpty := false } := by
  simp only [Ring.writeCore, if_pos hwr, if_neg h]

theorem Holds.writeCore (H : Holds rb n) (hp : 0 < p.length) (hroom : n + p.length ≤ rb.size) :
    Holds (writeCore rb p) (n + p.length) ∧ Ring.content (writeCore rb p) = Ring.content rb ++ p := by
  have hs : 0 < rb.size := Nat.lt_of_lt_of_le (Nat.add_pos_right n hp) hroom
  have hr := H.rlt hs
  have hws : rb.w < rb.size := H.w ▸ Nat.mod_lt _ hs
  -- whichever way the copy went: the slab `b'` and the write cursor `w'` it left
  have mk : ∀ (b' : Bytes) (w' : Nat), b'.length = rb.size → w' = (rb.w + p.length) % rb.size →
      seg b' rb.r (n + p.length) = seg rb.buf rb.r n ++ p →
      Holds { rb with buf := b', w := w', isEmpty := false } (n + p.length) ∧
      Ring.content { rb with buf := b', w := w', isEmpty := false } = Ring.content rb ++ p := by
    intro b' w' hb hw' hseg
    have H' : Holds { rb with buf := b', w := w', isEmpty := false } (n + p.length) :=
      holds_pos hb (Nat.ne_of_gt (Nat.add_pos_right n hp)) hroom Bool.false_ne_true H.rlt
        (by rw [hw', H.w, Nat.mod_add_mod, Nat.add_assoc])
    exact ⟨H', by rw [H'.content, H.content]; exact hseg⟩
  by_cases hfit : rb.w + p.length ≤ rb.size
  · rw [writeCore_fit hfit]
    exact mk _ _ (blit_length H.len hfit) (ite_eq_mod hfit) (seg_blit H.len hr hroom hfit (H.w_cases hs))
  · -- over the end of the slab: `w` is ahead of `r`, behind it there would be room up to `r`
    have hc : rb.size - rb.w < p.length := Nat.sub_lt_left_of_lt_add (Nat.le_of_lt hws) (Nat.lt_of_not_le hfit)
    have hwc := Nat.add_sub_cancel' (Nat.le_of_lt hws)
    rcases H.w_cases hs with ⟨_, h2⟩ | ⟨_, h2⟩
    · obtain ⟨hb, hseg⟩ := seg_blit_wrap H.len hroom h2 hwc (Nat.sub_pos_of_lt hws) hc
      rw [writeCore_wrap (h2 ▸ Nat.le_add_right ..) (Nat.not_le.mpr hc)]
      exact mk _ _ hb (wrap_cursor (Nat.le_of_lt hws) hc (Nat.le_trans (Nat.le_add_left ..) hroom)) hseg
    · exact absurd (Nat.le_trans (room_behind (Nat.le_of_lt hr) h2 hroom) (Nat.le_of_lt hr)) hfit

/-- the copy: with room for `p`, the content afterwards is the content before followed by `p` -/
theorem writeCore_spec (rb : Ring) (h : Inv rb) (p : Bytes) (hp : 0 < p.length) (hroom : p.length ≤ available rb) :
    Inv (writeCore rb p) ∧ content (writeCore rb p) = content rb ++ p ∧ (writeCore rb p).size = rb.size := by
  obtain ⟨H', hc⟩ := h.holds.writeCore hp (by
    rw [← available_add_buffered rb h, Nat.add_comm]; exact Nat.add_le_add_right hroom _)
  refine ⟨H'.inv, hc, ?_⟩
  simp only [Ring.writeCore, apply_ite Ring.size, ite_self]

/-! ### growing -/

theorem growLoop_ge (fuel n cap : Nat) (hn : 4 ≤ n) (hf : cap ≤ fuel + n) : cap ≤ growLoop fuel n cap := by
  induction fuel generalizing n with
  | zero => exact Nat.zero_add n ▸ hf
  | succ fuel ih =>
    unfold growLoop
    split
    · have hq : 0 < n / 4 := Nat.div_pos hn (by decide)
      generalize n / 4 = q at hq ⊢
      exact ih (n + q) (Nat.le_trans hn (Nat.le_add_right ..)) (by omega)
    · rename_i hc
      exact Nat.le_of_not_lt fun hlt => hc ⟨Nat.lt_of_lt_of_le (by decide) hn, hlt⟩

theorem le_ceilPow2 (n : Nat) : n ≤ ceilPow2 n := by
  unfold ceilPow2
  split
  · assumption
  · exact Nat.le_of_pred_lt Nat.lt_log2_self

/-- `grow` settles on a capacity that is at least what was asked for -/
theorem growCap_ge (size newCap : Nat) : newCap ≤ growCap size newCap := by
  unfold growCap
  by_cases hs : size = 0
  · rw [if_pos hs]
    split
    · assumption
    · exact le_ceilPow2 newCap
  · rw [if_neg hs]
    by_cases hd : newCap ≤ size + size
    · rw [if_pos hd]
      by_cases ht : size < Gen.ringBufferGrowThreshold
      · rw [if_pos ht]; exact hd
      · have h4 : 4 ≤ size := Nat.le_trans (by decide : 4 ≤ Gen.ringBufferGrowThreshold) (Nat.le_of_not_lt ht)
        rw [if_neg ht]
        dsimp only
        split
        · exact growLoop_ge newCap size newCap h4 (Nat.le_add_right ..)
        · exact Nat.le_refl _
    · rw [if_neg hd]; exact Nat.le_refl _

/-- `grow` moves the content to the front of the new array, whatever state the ring was in -/
theorem holds_grow (rb : Ring) {newCap : Nat} (hlt : (content rb).length < newCap) :
    Holds (grow rb newCap) (content rb).length ∧ content (grow rb newCap) = content rb := by
  have hlt := Nat.lt_of_lt_of_le hlt (growCap_ge rb.size newCap)
  have H : Holds (grow rb newCap) (content rb).length :=
    ⟨by show (content rb ++ List.replicate _ 0).length = _
        rw [List.length_append, List.length_replicate, Nat.add_sub_cancel' (Nat.le_of_lt hlt)]; rfl,
      Nat.le_of_lt hlt, List.isEmpty_iff_length_eq_zero, fun _ => rfl, fun hs => hs,
      by show (content rb).length = (0 + (content rb).length) % growCap rb.size newCap
         rw [Nat.zero_add, Nat.mod_eq_of_lt hlt]⟩
  refine ⟨H, ?_⟩
  rw [H.content]
  show ((content rb ++ _ ++ _).drop 0).take _ = _
  rw [List.drop_zero, List.append_assoc]
  exact List.take_left' rfl

/-- `grow` keeps the content, moved to the front of a larger array -/
theorem grow_spec (rb : Ring) (h : Inv rb) (newCap : Nat) (hc : buffered rb < newCap) :
    Inv (grow rb newCap) ∧ content (grow rb newCap) = content rb ∧
    (grow rb newCap).size = growCap rb.size newCap ∧ (grow rb newCap).r = 0 ∧
    (grow rb newCap).w = (content rb).length ∧ ((grow rb newCap).isEmpty = true ↔ content rb = []) := by
  obtain ⟨H, hc⟩ := holds_grow rb (content_length rb h ▸ hc)
  exact ⟨H.inv, hc, rfl, rfl, rfl, List.isEmpty_iff⟩

/-- **`Write(p)`**: the content afterwards is the content before followed by `p`, whatever the cursors were and
    whether or not the array had to grow -/
theorem write_spec (rb : Ring) (h : Inv rb) (p : Bytes) :
    Inv (write rb p) ∧ content (write rb p) = content rb ++ p := by
  unfold write
  dsimp only
  split
  · rename_i hn
    rw [List.eq_nil_of_length_eq_zero hn, List.append_nil]
    exact ⟨h, rfl⟩
  · have hp : 0 < p.length := Nat.pos_of_ne_zero ‹_›
    split
    · -- what `grow` is asked for is room for what is buffered and `p`
      have e : rb.size + p.length - available rb = (content rb).length + p.length := by
        rw [← available_add_buffered rb h, Nat.add_assoc, Nat.add_sub_cancel_left, content_length rb h]
      rw [e]
      obtain ⟨Hg, cg⟩ := holds_grow rb (Nat.lt_add_of_pos_right hp)
      obtain ⟨H', c'⟩ := Hg.writeCore hp (growCap_ge ..)
      exact ⟨H'.inv, c'.trans (congrArg (· ++ p) cg)⟩
    · obtain ⟨i, c, _⟩ := writeCore_spec rb h p hp (Nat.le_of_not_lt ‹_›)
      exact ⟨i, c⟩

theorem writeByte_eq (rb : Ring) (h : Inv rb) (c : UInt8) : writeByte rb c = write rb [c] := by
  unfold writeByte write
  dsimp only [List.length_singleton]
  rw [if_neg Nat.one_ne_zero]
  by_cases hg : available rb < 1
  · rw [if_pos hg, if_pos hg, Nat.lt_one_iff.mp hg]
    refine (writeCore_fit (p := [c]) ?_).symm
    show (content rb).length + 1 ≤ growCap rb.size (rb.size + 1)
    exact Nat.le_trans (Nat.succ_le_succ (content_length rb h ▸ h.holds.le)) (growCap_ge ..)
  · rw [if_neg hg, if_neg hg]
    refine (writeCore_fit (p := [c]) (h.wlt (Nat.lt_of_lt_of_le (Nat.lt_of_not_le fun h0 => hg (Nat.lt_succ_of_le h0)) ?_))).symm
    exact Nat.le.intro (available_add_buffered rb h)

theorem inv_new (size : Nat) : Inv (new size) ∧ content (new size) = [] := by
  have H : Holds (new size) 0 := by
    unfold new
    split
    · exact holds_zero rfl rfl rfl rfl
    · exact holds_zero List.length_replicate rfl rfl rfl
  exact ⟨H.inv, H.content⟩

end RcVerif.Lemmas.RingBuf
