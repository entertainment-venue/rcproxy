import RcVerif.Spec.KeySlot
/-
  Helper lemmas for C05: linearity of the CRC shift register over xor and the
  split of a 16-bit word into bytes.
-/
namespace RcVerif.Lemmas.Crc
open RcVerif RcVerif.Spec

theorem shift1_xor (x y : BitVec 16) : crcShift1 (x ^^^ y) = crcShift1 x ^^^ crcShift1 y := by
  unfold crcShift1
  rw [BitVec.msb_xor, BitVec.shiftLeft_xor_distrib]
  cases x.msb <;> cases y.msb <;>
    simp only [Bool.false_xor, Bool.true_xor, Bool.not_false, Bool.not_true, Bool.false_eq_true, ↓reduceIte]
  · rw [BitVec.xor_assoc]
  · rw [BitVec.xor_assoc, BitVec.xor_comm (y <<< 1), ← BitVec.xor_assoc]
  · -- both shifted out a one: the polynomial cancels
    rw [BitVec.xor_comm (y <<< 1), ← BitVec.xor_assoc, BitVec.xor_assoc (x <<< 1), BitVec.xor_self, BitVec.xor_zero]

theorem shift8_xor (x y : BitVec 16) : crcShift8 (x ^^^ y) = crcShift8 x ^^^ crcShift8 y := by
  simp only [crcShift8, shift1_xor]

/-- a word whose top byte is clear is simply shifted up by eight (256 cases, kernel-evaluated) -/
theorem shift8_low : ∀ lo : Fin 256, crcShift8 (BitVec.ofNat 16 lo.val) = BitVec.ofNat 16 (lo.val * 256) := by
  decide +kernel

theorem two_pow_mul_add_eq_xor {b i : Nat} (b_lt : b < 2 ^ i) (a : Nat) :
    2 ^ i * a + b = (2 ^ i * a) ^^^ b := by
  apply Nat.eq_of_testBit_eq
  intro j
  simp only [Nat.testBit_two_pow_mul_add _ b_lt, Nat.testBit_xor, Nat.testBit_two_pow_mul]
  by_cases j_lt : j < i
  · have : ¬ (i ≤ j) := by omega
    simp [j_lt, this]
  · have hb : b.testBit j = false :=
      Nat.testBit_lt_two_pow (Nat.lt_of_lt_of_le b_lt (Nat.pow_le_pow_right (by omega) (by omega)))
    have : i ≤ j := by omega
    simp [j_lt, hb, this]

theorem split_bytes (x : BitVec 16) :
    x = BitVec.ofNat 16 (x.toNat / 256 * 256) ^^^ BitVec.ofNat 16 (x.toNat % 256) := by
  have h := two_pow_mul_add_eq_xor (i := 8) (Nat.mod_lt x.toNat (by decide) : x.toNat % 256 < 2 ^ 8)
    (x.toNat / 256)
  rw [← BitVec.ofNat_xor, Nat.mul_comm, ← show 256 * (x.toNat / 256) + x.toNat % 256 = _ from h,
    Nat.div_add_mod, BitVec.ofNat_toNat, BitVec.setWidth_eq]

/-- bits 8..15 of a number are the high byte of its low 16 bits (by hand: core's `Nat.mod_mul_right_div_self`
    rests on `Classical.choice`, which C05 does without) -/
theorem div_mod_256 (n : Nat) : n / 256 % 256 = n % 65536 / 256 := by
  show _ = n % (256 * 256) / 256
  have hr : n % (256 * 256) / 256 < 256 := (Nat.div_lt_iff_lt_mul (by decide)).mpr (Nat.mod_lt n (by decide))
  conv =>
    lhs
    rw [← Nat.div_add_mod n (256 * 256), Nat.mul_assoc, Nat.mul_add_div (by decide), Nat.mul_add_mod,
      Nat.mod_eq_of_lt hr]

end RcVerif.Lemmas.Crc
