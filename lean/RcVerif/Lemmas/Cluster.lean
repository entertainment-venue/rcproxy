import RcVerif.Model.Cluster
/-
  Lemmas for the cluster refresh model (`Model/Cluster.lean`): the gate of `loopClusterNodes`, what a line of the
  nodes text must be to contribute a node, what one probe reply does to the published state - nothing, or one
  description published whole -, how `setReplicaset` attaches a replica, when the slot table has no entry, and that
  `sortBytes` permutes its input.
-/
namespace RcVerif.Cluster
open RcVerif.Resp RcVerif.SDecode

/-- **the gate of `loopClusterNodes`**: everything a probe reply must be for its text to be looked at -/
theorem probeText_some {msg text : Bytes} (h : probeText msg = some text) :
    3 ≤ msg.length ∧ msg.take 3 ≠ [43, 79, 75] ∧ msg.take 3 ≠ [36, 45, 49] ∧
    ∃ lf n, indexOf 10 msg = some lf ∧ parseLen ((msg.take (lf - 1)).drop 1) = .ok n ∧ n ≤ 163840 ∧
      msg.head? = some 36 ∧ text = (msg.take (msg.length - 3)).drop (lf + 1) := by
  unfold probeText at h
  obtain ⟨h1, h⟩ := Option.ite_none_left_eq_some.mp h
  obtain ⟨h2, h⟩ := Option.ite_none_left_eq_some.mp h
  obtain ⟨h3, h⟩ := Option.ite_none_left_eq_some.mp h
  cases hlf : indexOf 10 msg with
  | none => rw [hlf] at h; cases h
  | some lf =>
    rw [hlf] at h
    obtain ⟨h4, h⟩ := Option.ite_none_left_eq_some.mp h
    cases hn : parseLen ((msg.take (lf - 1)).drop 1) with
    | error e => rw [hn] at h; cases h
    | ok n =>
      rw [hn] at h
      obtain ⟨h5, h⟩ := Option.ite_none_left_eq_some.mp h
      exact ⟨Nat.le_of_not_lt h1, h2, h3, lf, n, rfl, hn, Int.not_lt.mp h5, Decidable.not_not.mp (fun hh => h4 (Or.inl hh)),
        (Option.some.inj h).symm⟩

/-! ### one line of the nodes text -/

theorem nodeOfLine_addr {nslots : Nat} {xs : List Bytes} {nd : Node} (h : nodeOfLine nslots xs = some nd) :
    nd.addr = parseAddr (xs.getD 1 []) := by
  unfold nodeOfLine at h
  extract_lets isSlave base at h
  have hb : base.addr = parseAddr (xs.getD 1 []) := rfl
  clear_value base isSlave
  cases isSlave with
  | true => cases h; exact hb
  | false =>
    rw [if_neg Bool.false_ne_true] at h
    split at h
    · cases h
    · cases hs : parseSlots nslots (xs.drop 8) with
      | none => rw [hs] at h; cases h
      | some slots => rw [hs] at h; cases h; exact hb

theorem admitNode_some {known : Bytes → Bool} {info : Bytes → Option Info} {n m : Node}
    (h : admitNode known info n = some m) :
    m = n ∧ (known n.addr = true ∨
      ∃ i, info n.addr = some i ∧ (n.isSlave = true → i.loading = false ∧ i.linkUp = true)) := by
  unfold admitNode at h
  by_cases hk : known n.addr = true
  · rw [if_pos hk] at h; exact ⟨(Option.some.inj h).symm, Or.inl hk⟩
  rw [if_neg hk] at h
  cases hi : info n.addr with
  | none => rw [hi] at h; cases h
  | some i =>
    rw [hi] at h
    obtain ⟨hl, h⟩ := Option.ite_none_left_eq_some.mp h
    obtain ⟨hu, h⟩ := Option.ite_none_left_eq_some.mp h
    exact ⟨(Option.some.inj h).symm, Or.inr ⟨i, rfl, fun hs =>
      ⟨Bool.of_not_eq_true fun hld => hl ⟨hs, hld⟩, Bool.of_not_eq_false fun hup => hu ⟨hs, by rw [hup]; rfl⟩⟩⟩⟩

theorem parseLineNode_some {nslots : Nat} {known : Bytes → Bool} {info : Bytes → Option Info} {line : Bytes} {n : Node}
    (h : parseLineNode nslots known info line = some n) :
    lineUsable (splitOn 32 line) = true ∧
    ∃ nd, nodeOfLine nslots (splitOn 32 line) = some nd ∧ admitNode known info nd = some n := by
  unfold parseLineNode at h
  obtain ⟨hu, h⟩ := Option.ite_none_right_eq_some.mp h
  cases hn : nodeOfLine nslots (splitOn 32 line) with
  | none => rw [hn] at h; cases h
  | some nd => rw [hn] at h; exact ⟨hu, nd, rfl, h⟩

/-! ### one probe reply -/

variable (nslots : Nat) (info : Bytes → Option Info)

/-- a description that differs from the last one is published whole -/
def publish (st : RState) (ns : List Node) : RState :=
  { st with servers := setServers ns, sets := setReplicasets ns, lastNames := sortBytes (ns.map sigOf), changed := true }

theorem adopt_some {st : RState} {text : Bytes} {ns : List Node}
    (h : parseText nslots (fun a => st.servers.any (·.addr = a)) info text = some ns) :
    adopt nslots info st text =
      if ns.length ≠ st.servers.length ∨ sortBytes (ns.map sigOf) ≠ st.lastNames then publish st ns else st := by
  unfold adopt; rw [h]
  -- where nothing differs `isChanged` stores the signature it holds already
  exact ite_congr rfl (fun _ => rfl) fun hc => by rw [Decidable.not_not.mp fun h => hc (.inr h)]

theorem onProbeReply_gate {st : RState} {msg text : Bytes} (ha : st.alive = true) (hg : probeText msg = some text) :
    onProbeReply nslots info st msg = adopt nslots info st text := by
  unfold onProbeReply; rw [if_neg (by simp [ha]), hg]

/-- the description a probe reply makes the refresh goroutine publish, if any: decided from `alive`, the
    published server map and the remembered signature alone -/
def verdict (st : RState) (msg : Bytes) : Option (List Node) :=
  if !st.alive then none else
  match probeText msg with
  | none => none
  | some text =>
    match parseText nslots (fun a => st.servers.any (·.addr = a)) info text with
    | none => none
    | some ns =>
      if ns.length ≠ st.servers.length ∨ sortBytes (ns.map sigOf) ≠ st.lastNames then some ns else none

theorem onProbeReply_eq (st : RState) (msg : Bytes) :
    onProbeReply nslots info st msg =
      match verdict nslots info st msg with
      | none => st
      | some ns => publish st ns := by
  unfold onProbeReply verdict
  by_cases ha : (!st.alive) = true
  · rw [if_pos ha, if_pos ha]
  rw [if_neg ha, if_neg ha]
  cases probeText msg with
  | none => rfl
  | some text =>
    dsimp only
    cases hp : parseText nslots (fun a => st.servers.any (·.addr = a)) info text with
    | none => unfold adopt; rw [hp]
    | some ns => rw [adopt_some nslots info hp]; dsimp only; split <;> rfl

/-- `setReplicaset` attaches one replica to the set of the master it names, if that master is listed -/
def attach (sets : List (Node × List Node)) (sl : Node) : List (Node × List Node) :=
  match sets.findIdx? (fun p => p.1.name = sl.masterId) with
  | some i => sets.mapIdx (fun j p => if j = i then (p.1, p.2 ++ [sl]) else p)
  | none => sets

theorem setReplicasets_eq (ns : List Node) : setReplicasets ns =
    (ns.filter (·.isSlave)).foldl attach ((ns.filter (fun n => !n.isSlave)).map (fun m => (m, []))) := rfl

theorem mem_attach {sets : List (Node × List Node)} {sl : Node} {p : Node × List Node} (hp : p ∈ attach sets sl) :
    p ∈ sets ∨ ∃ q ∈ sets, q.1.name = sl.masterId ∧ p = (q.1, q.2 ++ [sl]) := by
  unfold attach at hp
  cases hf : sets.findIdx? (fun p => p.1.name = sl.masterId) with
  | none => rw [hf] at hp; exact Or.inl hp
  | some i =>
    rw [hf] at hp
    obtain ⟨j, hj, rfl⟩ := List.mem_mapIdx.mp hp
    by_cases hji : j = i
    · subst hji
      obtain ⟨_, hp1, _⟩ := List.findIdx?_eq_some_iff_getElem.mp hf
      exact Or.inr ⟨sets[j], List.getElem_mem hj, of_decide_eq_true hp1, if_pos rfl⟩
    · exact Or.inl (if_neg hji ▸ List.getElem_mem hj)

theorem slotTable_eq_none {sets : List (Node × List Node)} {slot : Nat} :
    slotTable sets slot = none ↔ ∀ p ∈ sets, ∀ r ∈ p.1.slots, ¬ (r.1 ≤ slot ∧ slot ≤ r.2) := by
  simp only [slotTable, List.find?_eq_none, List.mem_reverse, List.any_eq_true, decide_eq_true_eq, not_exists, not_and]

theorem insertSorted_perm (x : Bytes) (l : List Bytes) : (insertSorted x l).Perm (x :: l) := by
  induction l with
  | nil => exact List.Perm.refl _
  | cons y ys ih =>
    show (if bytesLe x y then x :: y :: ys else y :: insertSorted x ys).Perm _
    split
    · exact List.Perm.refl _
    · exact (List.Perm.cons y ih).trans (List.Perm.swap x y ys)

theorem sortBytes_perm (l : List Bytes) : (sortBytes l).Perm l := by
  induction l with
  | nil => exact List.Perm.refl _
  | cons x xs ih =>
    show (insertSorted x (sortBytes xs)).Perm (x :: xs)
    exact (insertSorted_perm x _).trans (List.Perm.cons x ih)

end RcVerif.Cluster
