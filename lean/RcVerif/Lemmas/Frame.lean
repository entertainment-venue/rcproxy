import RcVerif.Model.CDecode
import RcVerif.Lemmas.Decimal
/-
  Framing lemmas for the client decoder: the decoder accepts exactly the
  canonical RESP encodings of (name, arguments), whatever follows them, and
  reports "incomplete" on every proper prefix of one.

  For each of `parseLine`, `parseArgs` and `frame` there are three statements: what it returns on an
  encoding followed by anything (`_bulk`, `_bulks`, `_encode`), that whatever it returns is one of the two
  errors or the reading of an encoding (`_cases`), and that a proper prefix of an encoding is incomplete
  (`_prefix`). The readers below them (`readLine`, `readN`, and `parseLen` in `Decimal`) have a `_cases` lemma
  of the same form, so that each `_cases` proof takes the outcomes of the level below as they come.
-/
namespace RcVerif.Lemmas.Frame
open RcVerif RcVerif.Resp RcVerif.CDecode RcVerif.Lemmas.Decimal

/-- lengths the real decoder can express (at most 18 decimal digits) -/
def Small (n : Nat) : Prop := n < 10 ^ 18

theorem indexOf_append_of_not_mem (c : UInt8) (l r : Bytes) (h : c ∉ l) :
    indexOf c (l ++ c :: r) = some l.length := by
  induction l with
  | nil => simp [indexOf]
  | cons x xs ih =>
    have hx : x ≠ c := fun e => h (by simp [e])
    have hxs : c ∉ xs := fun e => h (by simp [e])
    simp [indexOf, hx, ih hxs]

theorem indexOf_none_of_not_mem (c : UInt8) (l : Bytes) (h : c ∉ l) : indexOf c l = none := by
  induction l with
  | nil => rfl
  | cons x xs ih =>
    have hx : x ≠ c := fun e => h (by simp [e])
    have hxs : c ∉ xs := fun e => h (by simp [e])
    simp [indexOf, hx, ih hxs]

theorem indexOf_some (c : UInt8) (l : Bytes) (i : Nat) (h : indexOf c l = some i) :
    l = l.take i ++ c :: l.drop (i + 1) ∧ c ∉ l.take i := by
  induction l generalizing i with
  | nil => simp [indexOf] at h
  | cons x xs ih =>
    simp only [indexOf] at h
    split at h
    · rename_i hx
      injection h with h; subst h; simp [hx]
    · rename_i hx
      cases hi : indexOf c xs with
      | none => rw [hi] at h; simp at h
      | some j =>
        rw [hi] at h; simp at h; subst h
        obtain ⟨h1, h2⟩ := ih j hi
        constructor
        · simp only [List.take_succ_cons, List.drop_succ_cons, List.cons_append]
          exact congrArg _ h1
        · simp only [List.take_succ_cons, List.mem_cons, not_or]
          exact ⟨fun e => hx e.symm, h2⟩

theorem prefix_cases {α} (p s x y : List α) (h : p ++ s = x ++ y) :
    (∃ t, t ≠ [] ∧ p ++ t = x) ∨ (∃ q, p = x ++ q ∧ q ++ s = y) := by
  rcases List.append_eq_append_iff.mp h with ⟨a, h1, h2⟩ | ⟨c, h1, h2⟩
  · by_cases ha : a = []
    · subst ha
      exact .inr ⟨[], by rw [h1, List.append_nil, List.append_nil], by rw [h2]; rfl⟩
    · exact .inl ⟨a, ha, h1.symm⟩
  · exact .inr ⟨c, h1, h2.symm⟩

theorem length_lt_of_append {α} {p s x : List α} (h : p ++ s = x) (hs : s ≠ []) : p.length < x.length := by
  rw [← h, List.length_append]
  exact Nat.lt_add_of_pos_right (List.length_pos_iff.mpr hs)

theorem readLine_line (l r : Bytes) (hne : l ≠ []) (hlf : (10 : UInt8) ∉ l) :
    readLine (l ++ 13 :: 10 :: r) = .ok (l, r) := by
  have hsh : l ++ 13 :: 10 :: r = (l ++ [13]) ++ 10 :: r := (List.append_assoc l [13] (10 :: r)).symm
  have hidx : indexOf 10 (l ++ 13 :: 10 :: r) = some (l.length + 1) := by
    rw [hsh, indexOf_append_of_not_mem 10 (l ++ [13]) r (by simp [hlf]), List.length_append]
    rfl
  have hlen : 0 < l.length := List.length_pos_iff.mpr hne
  unfold readLine
  rw [if_neg (by simp), hidx]
  dsimp only
  rw [if_neg (Nat.not_lt.mpr (Nat.succ_le_succ hlen)), Nat.add_sub_cancel, if_neg (by simp [List.getD_eq_getElem?_getD])]
  rw [List.take_left' rfl, Nat.add_assoc, List.drop_length_add_append]
  rfl

theorem readLine_simple (c : UInt8) (l t : Bytes) (hc : c ≠ 10) (hl : (10 : UInt8) ∉ l) :
    readLine (c :: (l ++ 13 :: 10 :: t)) = .ok (c :: l, t) :=
  readLine_line (c :: l) t (List.cons_ne_nil _ _) (by
    simp only [List.mem_cons, not_or]; exact ⟨fun e => hc e.symm, hl⟩)

theorem lf_not_mem_header (c : UInt8) (n : Nat) (hc : c ≠ 10) : (10 : UInt8) ∉ c :: itoa n :=
  fun h => (List.mem_cons.mp h).elim (fun e => hc e.symm) fun h => absurd (itoa_digits n 10 h) (by decide)

/-- the header line of a bulk string (`$n`) or of a request or array (`*n`) -/
theorem readLine_header (c : UInt8) (n : Nat) (t : Bytes) (hc : c ≠ 10) :
    readLine (c :: (itoa n ++ 13 :: 10 :: t)) = .ok (c :: itoa n, t) :=
  readLine_line (c :: itoa n) t (List.cons_ne_nil _ _) (lf_not_mem_header c n hc)

/-- `readLine` fails, or splits a non-empty line and its CRLF off the front -/
theorem readLine_cases (rest : Bytes) :
    (∃ e, readLine rest = .error e) ∨
    ∃ line r, readLine rest = .ok (line, r) ∧ rest = line ++ 13 :: 10 :: r ∧ line ≠ [] := by
  rw [readLine]
  by_cases h0 : rest.length < 1
  · exact .inl ⟨_, if_pos h0⟩
  rw [if_neg h0]
  cases hi : indexOf 10 rest with
  | none => exact .inl ⟨_, rfl⟩
  | some idx =>
  dsimp only
  by_cases hidx : idx < 2
  · exact .inl ⟨_, if_pos hidx⟩
  by_cases hcr : rest.getD (idx - 1) 0 = 13
  case neg => exact .inl ⟨_, by rw [if_neg hidx, if_pos hcr]⟩
  rw [if_neg hidx, if_neg (not_not_intro hcr)]
  obtain ⟨hs, -⟩ := indexOf_some 10 rest idx hi
  -- the byte before the LF is the CR the code looked for
  obtain ⟨j, rfl⟩ : ∃ j, idx = j + 1 := ⟨idx - 1, (Nat.sub_add_cancel (by omega)).symm⟩
  rw [Nat.add_sub_cancel] at hcr ⊢
  have hj : rest[j]? = some 13 := by
    rw [List.getD_eq_getElem?_getD] at hcr
    cases hj : rest[j]? with
    | none => rw [hj] at hcr; cases hcr
    | some x => rw [hj] at hcr; exact congrArg some hcr
  rw [List.take_add_one, hj, List.append_assoc] at hs
  refine .inr ⟨_, _, rfl, hs, fun he => ?_⟩
  rcases List.take_eq_nil_iff.mp he with h0 | h0
  · omega
  · rw [h0] at hj; cases hj

theorem readLine_prefix (l p s : Bytes) (hlf : (10 : UInt8) ∉ l) (hs : s ≠ [])
    (h : p ++ s = l ++ [13, 10]) (hp : p ≠ []) : readLine p = .error .lfNotFound := by
  -- `p` is a prefix of `l ++ [13]`: the last byte of `l ++ [13, 10]` belongs to `s`
  have h' : (p ++ s.dropLast) ++ [s.getLast hs] = (l ++ [13]) ++ [10] := by
    rw [List.append_assoc, List.dropLast_concat_getLast hs, h, List.append_assoc]
    rfl
  have hno : (10 : UInt8) ∉ p := fun hm => by
    have : (10 : UInt8) ∈ l ++ [13] := (List.append_inj' h' rfl).1 ▸ List.mem_append_left _ hm
    rcases List.mem_append.mp this with h | h
    · exact hlf h
    · cases h with | tail _ h => cases h
  unfold readLine
  rw [if_neg (fun hl => hp (List.length_eq_zero_iff.mp (Nat.lt_one_iff.mp hl))), indexOf_none_of_not_mem 10 p hno]

theorem readN_append (b r : Bytes) (h : b ++ r ≠ []) : readN b.length (b ++ r) = .ok (b, r) := by
  unfold readN
  have h1 : ¬ (b ++ r).length < 1 := Nat.not_lt.mpr (List.length_pos_iff.mpr h)
  have h2 : ¬ b.length > (b ++ r).length := by simp
  simp only [h1, h2, ↓reduceIte, List.take_left', List.drop_left']

theorem readN_crlf (t : Bytes) : readN 2 (13 :: 10 :: t) = .ok ([13, 10], t) :=
  readN_append [13, 10] t (List.cons_ne_nil _ _)

/-- `readN` fails with one of the two errors that mean "wait for more", or splits `n` bytes off the front -/
theorem readN_cases (n : Nat) (rest : Bytes) :
    (∃ e, readN n rest = .error e ∧ ofRErr e = .incomplete) ∨
    ∃ b r, readN n rest = .ok (b, r) ∧ rest = b ++ r ∧ b.length = n := by
  unfold readN
  by_cases h1 : rest.length < 1
  · exact .inl ⟨_, if_pos h1, rfl⟩
  by_cases h2 : n > rest.length
  · exact .inl ⟨_, by rw [if_neg h1, if_pos h2], rfl⟩
  · exact .inr ⟨_, _, by rw [if_neg h1, if_neg h2], (List.take_append_drop n rest).symm,
      List.length_take_of_le (Nat.le_of_not_gt h2)⟩

/-- too few bytes: one of the two errors that mean "wait for more" -/
theorem readN_short (n : Nat) (q : Bytes) (h : q.length < n) :
    ∃ e, readN n q = .error e ∧ ofRErr e = .incomplete := by
  unfold readN
  by_cases h1 : q.length < 1
  · exact ⟨.emptyLine, by rw [if_pos h1], rfl⟩
  · exact ⟨.shortLine, by rw [if_neg h1, if_pos h], rfl⟩

theorem bulk_append (b r : Bytes) :
    bulk b ++ r = 36 :: (itoa b.length ++ 13 :: 10 :: (b ++ 13 :: 10 :: r)) := by
  simp [bulk]

theorem parseLine_header (n : Nat) (q : Bytes) (hn : Small n) :
    parseLine (36 :: (itoa n ++ 13 :: 10 :: q)) =
      match readN n q with
      | .error e => .error (ofRErr e)
      | .ok (b, rest2) =>
        match readN 2 rest2 with
        | .error _ => .error .incomplete
        | .ok (crlf, rest3) => if crlf = [13, 10] then .ok (b, rest3) else .error .invalid := by
  unfold parseLine
  rw [readLine_header 36 n q (by decide)]
  simp only [parseLen_itoa n hn]
  rw [if_neg (ofNat_not_neg n)]
  rfl

theorem parseLine_bulk (b r : Bytes) (hb : Small b.length) :
    parseLine (bulk b ++ r) = .ok (b, r) := by
  rw [bulk_append, parseLine_header _ _ hb, readN_append b _ (by simp)]
  simp only [readN_crlf, ↓reduceIte]

/-- whatever `parseLine` returns is one of the two errors the event loop handles, or the reading of a
    bulk string: in particular never the panic, because `readLine` returns no empty line -/
theorem parseLine_cases (rest : Bytes) :
    parseLine rest = .error .incomplete ∨ parseLine rest = .error .invalid ∨
    ∃ b r, parseLine rest = .ok (b, r) ∧ rest = bulk b ++ r ∧ Small b.length := by
  rw [parseLine]
  rcases readLine_cases rest with ⟨e, hrl⟩ | ⟨line, rest1, hrl, hrest, hne⟩ <;> rw [hrl]
  · cases e <;> first | exact .inl rfl | exact .inr (.inl rfl)
  dsimp only
  split
  · exact absurd rfl hne
  · rename_i lenBytes
    rcases parseLen_cases lenBytes with ⟨e, hpl⟩ | hpl | ⟨n, hpl, hsmall, hp⟩ <;> rw [hpl]
    · exact .inr (.inl rfl)
    · exact .inr (.inl rfl)
    dsimp only
    rw [if_neg (ofNat_not_neg n), show (Int.ofNat n).toNat = n from rfl]
    rcases readN_cases n rest1 with ⟨e, hr1, he⟩ | ⟨b, rest2, hr1, e1, l1⟩ <;> rw [hr1]
    · exact .inl (congrArg Except.error he)
    dsimp only
    rcases readN_cases 2 rest2 with ⟨e, hr2, -⟩ | ⟨crlf, rest3, hr2, e2, -⟩ <;> rw [hr2]
    · exact .inl rfl
    dsimp only
    by_cases hcrlf : crlf = [13, 10]
    · refine .inr (.inr ⟨b, rest3, if_pos hcrlf, ?_, l1 ▸ hsmall⟩)
      rw [hrest, e1, e2, hcrlf, hp, ← l1, bulk_append]
      simp
    · exact .inr (.inl (if_neg hcrlf))
  · exact .inr (.inl rfl)

theorem parseLine_prefix (b p s : Bytes) (hb : Small b.length) (hs : s ≠ []) (h : p ++ s = bulk b) :
    parseLine p = .error .incomplete := by
  have hsh : bulk b = ((36 :: itoa b.length) ++ [13, 10]) ++ (b ++ [13, 10]) := by simp [bulk]
  rcases prefix_cases _ _ _ _ (h.trans hsh) with ⟨t, ht, h1⟩ | ⟨q, h1, h2⟩
  · -- the cut is inside the header line
    by_cases hp : p = []
    · rw [hp]; rfl
    · rw [parseLine, readLine_prefix _ p t (lf_not_mem_header 36 _ (by decide)) ht h1 hp]
      rfl
  · rw [h1, List.append_assoc]
    show parseLine (36 :: (itoa b.length ++ 13 :: 10 :: q)) = _
    rw [parseLine_header _ _ hb]
    rcases prefix_cases _ _ _ _ h2 with ⟨t, ht, h3⟩ | ⟨q', h3, h4⟩
    · -- inside the data
      obtain ⟨e, he, hi⟩ := readN_short b.length q (length_lt_of_append h3 ht)
      rw [he, ← hi]
    · -- inside the closing CRLF
      by_cases hbe : b ++ q' = []
      · rw [h3, hbe]; rfl
      · obtain ⟨e, he, -⟩ := readN_short 2 q' (length_lt_of_append h4 hs)
        rw [h3, readN_append b q' hbe]
        dsimp only
        rw [he]

theorem bulks_cons (a : Bytes) (as : List Bytes) : bulks (a :: as) = bulk a ++ bulks as := rfl

theorem parseArgs_bulks (args : List Bytes) (r : Bytes) (h : ∀ a ∈ args, Small a.length) :
    parseArgs args.length (bulks args ++ r) = .ok (args, r) := by
  induction args with
  | nil => rfl
  | cons a as ih =>
    rw [List.length_cons, parseArgs, bulks_cons, List.append_assoc,
      parseLine_bulk a _ (h a List.mem_cons_self)]
    dsimp only
    rw [ih fun x hx => h x (List.mem_cons_of_mem _ hx)]

theorem parseArgs_cases (n : Nat) (rest : Bytes) :
    parseArgs n rest = .error .incomplete ∨ parseArgs n rest = .error .invalid ∨
    ∃ args r, parseArgs n rest = .ok (args, r) ∧ rest = bulks args ++ r ∧ args.length = n ∧
      ∀ a ∈ args, Small a.length := by
  induction n generalizing rest with
  | zero => exact .inr (.inr ⟨[], rest, rfl, rfl, rfl, nofun⟩)
  | succ n ih =>
    rw [parseArgs]
    rcases parseLine_cases rest with h | h | ⟨a, rest1, h, e1, s1⟩ <;> rw [h]
    · exact .inl rfl
    · exact .inr (.inl rfl)
    dsimp only
    rcases ih rest1 with h' | h' | ⟨as, r, h', e2, l2, s2⟩ <;> rw [h']
    · exact .inl rfl
    · exact .inr (.inl rfl)
    refine .inr (.inr ⟨a :: as, r, rfl, ?_, congrArg (· + 1) l2, ?_⟩)
    · rw [e1, e2, bulks_cons, List.append_assoc]
    · intro x hx
      rcases List.mem_cons.mp hx with rfl | hx
      · exact s1
      · exact s2 x hx

theorem parseArgs_prefix (args : List Bytes) (p s : Bytes) (ha : ∀ a ∈ args, Small a.length)
    (hs : s ≠ []) (h : p ++ s = bulks args) :
    parseArgs args.length p = .error .incomplete := by
  induction args generalizing p with
  | nil => exact absurd (List.append_eq_nil_iff.mp h).2 hs
  | cons a as ih =>
    rw [List.length_cons, parseArgs]
    rcases prefix_cases _ _ _ _ h with ⟨t, ht, h1⟩ | ⟨q, h1, h2⟩
    · rw [parseLine_prefix a p t (ha a List.mem_cons_self) ht h1]
    · rw [h1, parseLine_bulk a q (ha a List.mem_cons_self)]
      dsimp only
      rw [ih q (fun x hx => ha x (List.mem_cons_of_mem _ hx)) h2]

theorem encodeCmd_append (name : Bytes) (args : List Bytes) (t : Bytes) :
    encodeCmd name args ++ t
      = 42 :: (itoa (args.length + 1) ++ 13 :: 10 :: (bulk name ++ (bulks args ++ t))) := by
  simp [encodeCmd]

theorem ofNat_succ_not_lt_one (n : Nat) : ¬ Int.ofNat (n + 1) < 1 :=
  Int.not_lt.mpr (Int.ofNat_le.mpr (Nat.le_add_left 1 n))

theorem frame_header (n : Nat) (q : Bytes) (hn : Small (n + 1)) :
    frame (42 :: (itoa (n + 1) ++ 13 :: 10 :: q)) =
      match parseLine q with
      | .error e => .error e
      | .ok (name, rest1) =>
        match parseArgs n rest1 with
        | .error e => .error e
        | .ok (args, rest2) => .ok (name, args, rest1, rest2) := by
  rw [frame, if_neg (by simp), readLine_header 42 (n + 1) q (by decide)]
  simp only [parseLen_itoa (n + 1) hn]
  rw [if_neg (ofNat_succ_not_lt_one n)]
  rfl

theorem frame_encode (name : Bytes) (args : List Bytes) (t : Bytes)
    (hn : Small name.length) (ha : ∀ a ∈ args, Small a.length) (hc : Small (args.length + 1)) :
    frame (encodeCmd name args ++ t) = .ok (name, args, bulks args ++ t, t) := by
  rw [encodeCmd_append, frame_header _ _ hc, parseLine_bulk name _ hn]
  dsimp only
  rw [parseArgs_bulks args t ha]

/-- converse of `frame_encode`: whatever the decoder frames is a canonical encoding, and what it
    does not frame it answers with one of the two errors -/
theorem frame_cases (view : Bytes) :
    frame view = .error .incomplete ∨ frame view = .error .invalid ∨
    ∃ name args r, frame view = .ok (name, args, bulks args ++ r, r) ∧ view = encodeCmd name args ++ r ∧
      Small name.length ∧ (∀ a ∈ args, Small a.length) ∧ Small (args.length + 1) := by
  rw [frame]
  by_cases h0 : view.length < 1
  · exact .inl (if_pos h0)
  rw [if_neg h0]
  rcases readLine_cases view with ⟨e, hrl⟩ | ⟨line, rest0, hrl, hview, hne⟩ <;> rw [hrl]
  · cases e <;> first | exact .inl rfl | exact .inr (.inl rfl)
  dsimp only
  split
  · exact absurd rfl hne
  · rename_i lenBytes
    rcases parseLen_cases lenBytes with ⟨e, hpl⟩ | hpl | ⟨n, hpl, hsmall, hp⟩ <;> rw [hpl]
    · exact .inr (.inl rfl)
    · exact .inr (.inl rfl)
    dsimp only
    cases n with
    | zero => exact .inr (.inl rfl)
    | succ n =>
    rw [if_neg (ofNat_succ_not_lt_one n)]
    rcases parseLine_cases rest0 with h | h | ⟨name, rest1, h, e1, s1⟩ <;> rw [h]
    · exact .inl rfl
    · exact .inr (.inl rfl)
    dsimp only
    rw [show (Int.ofNat (n + 1)).toNat - 1 = n from rfl]
    rcases parseArgs_cases n rest1 with h' | h' | ⟨args, r, h', e2, rfl, s2⟩ <;> rw [h']
    · exact .inl rfl
    · exact .inr (.inl rfl)
    refine .inr (.inr ⟨name, args, r, by rw [e2], ?_, s1, s2, hsmall⟩)
    rw [encodeCmd_append, hview, e1, e2, hp]
    rfl
  · exact .inr (.inl rfl)

theorem frame_prefix (name : Bytes) (args : List Bytes) (p s : Bytes)
    (hn : Small name.length) (ha : ∀ a ∈ args, Small a.length) (hc : Small (args.length + 1))
    (hs : s ≠ []) (h : p ++ s = encodeCmd name args) :
    frame p = .error .incomplete := by
  have hsh : encodeCmd name args
      = ((42 :: itoa (args.length + 1)) ++ [13, 10]) ++ (bulk name ++ bulks args) := by
    simp [encodeCmd]
  rcases prefix_cases _ _ _ _ (h.trans hsh) with ⟨t, ht, h1⟩ | ⟨q, h1, h2⟩
  · -- the cut is inside the header line
    by_cases hp : p = []
    · rw [hp]; rfl
    · rw [frame, if_neg (fun hl => hp (List.length_eq_zero_iff.mp (Nat.lt_one_iff.mp hl))),
        readLine_prefix _ p t (lf_not_mem_header 42 _ (by decide)) ht h1 hp]
  · rw [h1, List.append_assoc]
    show frame (42 :: (itoa (args.length + 1) ++ 13 :: 10 :: q)) = _
    rw [frame_header _ _ hc]
    rcases prefix_cases _ _ _ _ h2 with ⟨t, ht, h3⟩ | ⟨q2, h3, h4⟩
    · rw [parseLine_prefix name q t hn ht h3]
    · rw [h3, parseLine_bulk name q2 hn]
      dsimp only
      rw [parseArgs_prefix args q2 s ha hs h4]

end RcVerif.Lemmas.Frame
