import RcVerif.Model.Merge
/-
  Basic facts about `conn.sread`'s merge step: pass-through of single-fragment
  replies, the reply size limit, dropping of late replies, error short-circuit;
  what every branch guarantees (`ReplyOK`); and the part MGET, MSET and DEL share
  when the fragments of a split request are answered in any order (`feed_any_order`).
  Conditionals with large branches are taken apart by `iteInduction`: `split` is slow to check there.
-/
open RcVerif RcVerif.Merge

namespace RcVerif.Lemmas.MergeBasic

theorem getFrag_some_mem (m : MMsg) (s : Nat) (f : MFrag) (h : getFrag m s = some f) : f ∈ m.frags ∧ f.slot = s := by
  unfold getFrag at h
  have := List.find?_some h
  exact ⟨List.mem_of_find?_eq_some h, by simpa using this⟩

theorem onReply_merge (T : Tables) (K : Consts) (slotFn : Bytes → Nat) (limit : Nat) (m : MMsg) (s rtype : Nat)
    (body : Bytes) (hf : ∃ fr, getFrag m s = some fr ∧ fr.done = false ∧ fr.err = [])
    (hr : rtype ≠ T.rMoved ∧ rtype ≠ T.rAsk)
    (hs : ¬ (rtype = T.rError ∧ (m.type = T.cMget ∨ m.type = T.cMset ∨ m.type = T.cDel)))
    (hsz : body.length ≤ limit) :
    onReply T K slotFn limit m s rtype body =
      if m.type = T.cMget then mergeMGet K slotFn limit (bump m) s rtype body
      else if m.type = T.cMset then mergeMSet T K (bump m) s rtype
      else if m.type = T.cDel then mergeDel (bump m) s rtype body
      else mergeDefault (bump m) s rtype body := by
  obtain ⟨fr, hf, hd, he⟩ := hf
  unfold onReply
  simp only [hf, hd, Bool.false_eq_true, ↓reduceIte, hr.1, hr.2, or_self, Nat.not_lt.mpr hsz, he, true_and, hs, ne_eq,
    not_true_eq_false]

theorem default_passthrough (T : Tables) (K : Consts) (slotFn : Bytes → Nat) (limit : Nat)
    (m : MMsg) (slot rtype : Nat) (body : Bytes) (f : MFrag)
    (hf : getFrag m slot = some f) (hnd : f.done = false) (herr : f.err = [])
    (hty : m.type ≠ T.cMget ∧ m.type ≠ T.cMset ∧ m.type ≠ T.cDel)
    (hr : rtype ≠ T.rMoved ∧ rtype ≠ T.rAsk) (hsz : body.length ≤ limit) :
    (onReply T K slotFn limit m slot rtype body).2 = .ready ∧
    (onReply T K slotFn limit m slot rtype body).1.done = true ∧
    (onReply T K slotFn limit m slot rtype body).1.rspBody = body := by
  rw [onReply_merge T K slotFn limit m slot rtype body ⟨f, hf, hnd, herr⟩ hr
    (fun h => h.2.elim hty.1 (·.elim hty.2.1 hty.2.2)) hsz, if_neg hty.1, if_neg hty.2.1, if_neg hty.2.2]
  exact ⟨rfl, rfl, rfl⟩

theorem reply_too_large (T : Tables) (K : Consts) (slotFn : Bytes → Nat) (limit : Nat)
    (m : MMsg) (slot rtype : Nat) (body : Bytes) (f : MFrag)
    (hf : getFrag m slot = some f) (hnd : f.done = false)
    (hr : rtype ≠ T.rMoved ∧ rtype ≠ T.rAsk) (hsz : body.length > limit) (hK : K.errTooLargeRsp ≠ []) :
    (onReply T K slotFn limit m slot rtype body).2 = .ready ∧
    (onReply T K slotFn limit m slot rtype body).1.done = true ∧
    (onReply T K slotFn limit m slot rtype body).1.rspBody = K.errTooLargeRsp := by
  unfold onReply
  simp [hf, hnd, hr.1, hr.2, hsz, hK, allDone, failWith]

theorem done_dropped (T : Tables) (K : Consts) (slotFn : Bytes → Nat) (limit : Nat)
    (m : MMsg) (slot rtype : Nat) (body : Bytes) (f : MFrag)
    (hf : getFrag m slot = some f) (hd : f.done = true) :
    onReply T K slotFn limit m slot rtype body = (m, .dropped) := by
  unfold onReply
  simp [hf, hd]

theorem split_error (T : Tables) (K : Consts) (slotFn : Bytes → Nat) (limit : Nat)
    (m : MMsg) (slot : Nat) (body : Bytes) (f : MFrag)
    (hf : getFrag m slot = some f) (hnd : f.done = false) (herr : f.err = [])
    (hty : m.type = T.cMget ∨ m.type = T.cMset ∨ m.type = T.cDel)
    (hdist : T.rError ≠ T.rMoved ∧ T.rError ≠ T.rAsk) (hsz : body.length ≤ limit) (hb : body ≠ []) :
    (onReply T K slotFn limit m slot T.rError body).2 = .ready ∧
    (onReply T K slotFn limit m slot T.rError body).1.done = true ∧
    (onReply T K slotFn limit m slot T.rError body).1.rspBody = body ∧
    (onReply T K slotFn limit m slot T.rError body).1.err = body ∧
    (∀ x ∈ (onReply T K slotFn limit m slot T.rError body).1.frags, x.done = true) := by
  have h : onReply T K slotFn limit m slot T.rError body
      = failWith (setFrag (bump m) slot fun x => { x with err := body, rtype := T.rError }) body := by
    unfold onReply
    simp only [hf, hnd, Bool.false_eq_true, ↓reduceIte, hdist.1, hdist.2, or_self, Nat.not_lt.mpr hsz, herr, hty, and_self,
      ne_eq, hb, not_false_eq_true]
  rw [h]
  refine ⟨rfl, rfl, rfl, rfl, fun x hx => ?_⟩
  obtain ⟨_, _, rfl⟩ := List.mem_map.mp hx
  rfl

/-! ### fragments addressed by slot -/

theorem ite_slot {c : Prop} [Decidable c] {g : MFrag → MFrag} {x : MFrag} (h : (g x).slot = x.slot) :
    (if c then g x else x).slot = x.slot :=
  iteInduction (motive := fun y : MFrag => y.slot = x.slot) (fun _ => h) fun _ => rfl

theorem find?_map_slot (frags : List MFrag) (g : MFrag → MFrag) (hg : ∀ x, (g x).slot = x.slot) (slot : Nat) :
    (frags.map g).find? (·.slot = slot) = (frags.find? (·.slot = slot)).map g := by
  simp only [List.find?_map, Function.comp_def, hg]

theorem getFrag_setFrag (m : MMsg) (slot : Nat) (g : MFrag → MFrag) (hg : ∀ x, (g x).slot = x.slot) (slot' : Nat) :
    getFrag (setFrag m slot g) slot' = if slot' = slot then (getFrag m slot').map g else getFrag m slot' := by
  unfold getFrag setFrag
  rw [find?_map_slot _ _ (fun x => ite_slot (hg x))]
  cases h : m.frags.find? (·.slot = slot') with
  | none => simp
  | some f =>
    simp only [Option.map_some, (getFrag_some_mem m slot' f h).2]
    split <;> rfl

/-! ### what a reply does to a request -/

/-- `m'` is `m` with some fragments changed: redirect counters stay, `done` never goes back -/
def Advances (m m' : MMsg) : Prop :=
  ∃ g : MFrag → MFrag, (∀ x, (g x).redirects = x.redirects ∧ (x.done = true → (g x).done = true)) ∧
    ∀ slot, getFrag m' slot = (getFrag m slot).map g

theorem Advances.of_frags {m m' : MMsg} (h : m'.frags = m.frags) : Advances m m' :=
  ⟨id, fun _ => ⟨rfl, id⟩, fun slot => by simp [getFrag, h]⟩

theorem Advances.refl (m : MMsg) : Advances m m := .of_frags rfl

theorem Advances.trans {a b c : MMsg} : Advances a b → Advances b c → Advances a c
  | ⟨g1, h1, e1⟩, ⟨g2, h2, e2⟩ =>
    ⟨g2 ∘ g1, fun x => ⟨(h2 _).1.trans (h1 x).1, fun hd => (h2 _).2 ((h1 x).2 hd)⟩,
      fun slot => by rw [e2, e1, Option.map_map]⟩

theorem Advances.map (m : MMsg) (g : MFrag → MFrag)
    (hg : ∀ x, (g x).slot = x.slot ∧ (g x).redirects = x.redirects ∧ (x.done = true → (g x).done = true)) :
    Advances m { m with frags := m.frags.map g } :=
  ⟨g, fun x => (hg x).2, fun slot => find?_map_slot _ _ (fun x => (hg x).1) slot⟩

theorem Advances.setFrag (m : MMsg) (slot : Nat) (g : MFrag → MFrag)
    (hg : ∀ x, (g x).slot = x.slot ∧ (g x).redirects = x.redirects ∧ (x.done = true → (g x).done = true)) :
    Advances m (setFrag m slot g) :=
  .map m _ fun x => by
    split
    · exact hg x
    · exact ⟨rfl, rfl, id⟩

theorem Advances.allDone (m : MMsg) : Advances m (allDone m) := .map m _ fun _ => ⟨rfl, rfl, fun _ => rfl⟩

/-- the outcomes of `onReply`, one hypothesis per branch of `conn.sread` -/
theorem onReply_cases {P : MMsg × Signal → Prop} (T : Tables) (K : Consts) (slotFn : Bytes → Nat) (limit : Nat)
    (m : MMsg) (slot rtype : Nat) (body : Bytes)
    (panic : getFrag m slot = none → P (m, .panic))
    (dropped : ∀ f, getFrag m slot = some f → f.done = true → P (m, .dropped))
    (redirect : ∀ f, getFrag m slot = some f → f.done = false → rtype = T.rMoved ∨ rtype = T.rAsk →
      P (setFrag m slot (fun x => { x with rtype := rtype }), .redirect))
    (error : ∀ f e, getFrag m slot = some f → f.done = false → e ≠ [] →
      P (failWith (setFrag (bump m) slot (fun x => { x with err := e, rtype := rtype })) e))
    (mget : m.type = T.cMget → P (mergeMGet K slotFn limit (bump m) slot rtype body))
    (mset : m.type = T.cMset → P (mergeMSet T K (bump m) slot rtype))
    (del : m.type = T.cDel → P (mergeDel (bump m) slot rtype body))
    (default : P (mergeDefault (bump m) slot rtype body)) :
    P (onReply T K slotFn limit m slot rtype body) := by
  unfold onReply
  split
  · rename_i h; exact panic h
  · rename_i f hf
    cases hd : f.done with
    | true => exact dropped f hf hd
    | false =>
      rw [if_neg Bool.false_ne_true]
      refine iteInduction (redirect f hf hd) fun _ => ?_
      extract_lets e0 isSplit e1
      exact iteInduction (error f e1 hf hd) fun _ => iteInduction mget fun _ => iteInduction mset fun _ => iteInduction del fun _ => default

/-- what every branch of `onReply` guarantees about the request it returns -/
structure ReplyOK (m : MMsg) (slot : Nat) (res : MMsg × Signal) : Prop where
  adv : Advances m res.1
  keep : res.2 ≠ .ready → res.1.done = m.done
  ready : res.2 = .ready → res.1.done = true
  waiting : res.2 = .waiting → ∀ f, getFrag res.1 slot = some f → f.done = true
  dropped : res.2 = .dropped → res.1 = m ∧ ∀ f, getFrag m slot = some f → f.done = true
  redirect : res.2 = .redirect → (getFrag res.1 slot).isSome

section
variable {m0 m : MMsg} {slot : Nat}

theorem ReplyOK.of_ready {m' : MMsg} (h : Advances m0 m) (hf : m'.frags = m.frags) (hd : m'.done = true) :
    ReplyOK m0 slot (m', .ready) :=
  ⟨h.trans (.of_frags hf), fun h => absurd rfl h, fun _ => hd, nofun, nofun, nofun⟩

theorem ReplyOK.of_waiting (h : Advances m0 m) (hd : m.done = m0.done) (g : MFrag → MFrag)
    (hg : ∀ x, (g x).slot = x.slot ∧ (g x).redirects = x.redirects ∧ (g x).done = true) :
    ReplyOK m0 slot (setFrag m slot g, .waiting) := by
  refine ⟨h.trans (.setFrag m slot g fun x => ⟨(hg x).1, (hg x).2.1, fun _ => (hg x).2.2⟩), fun _ => hd, nofun, ?_, nofun, nofun⟩
  intro _ f hf
  rw [getFrag_setFrag m slot g (fun x => (hg x).1), if_pos rfl] at hf
  obtain ⟨x, _, rfl⟩ := Option.map_eq_some_iff.mp hf
  exact (hg x).2.2

theorem ReplyOK.of_panic (h : Advances m0 m) (hd : m.done = m0.done) : ReplyOK m0 slot (m, .panic) :=
  ⟨h, fun _ => hd, nofun, nofun, nofun, nofun⟩

theorem ReplyOK.failWith (h : Advances m0 m) (e : Bytes) : ReplyOK m0 slot (failWith m e) :=
  .of_ready (h.trans ((Advances.of_frags rfl).trans (.allDone _))) rfl rfl

/- In the merges of a split request `m2` is `m` with the fragment of `slot` marked done. Once `hw` says what that
   guarantees, the value of `m2` is forgotten: the conditionals that follow are cheap to take apart over a variable. -/

theorem ReplyOK.mergeMGet (K : Consts) (slotFn : Bytes → Nat) (limit rtype : Nat) (body : Bytes)
    (h : Advances m0 m) (hd : m.done = m0.done) : ReplyOK m0 slot (mergeMGet K slotFn limit m slot rtype body) := by
  unfold Merge.mergeMGet
  split
  · exact .of_panic h hd
  · extract_lets rsp m2
    have hw : ReplyOK m0 slot (m2, .waiting) := .of_waiting h hd _ fun _ => ⟨rfl, rfl, rfl⟩
    clear_value m2
    refine iteInduction (fun _ => ?_) fun _ => iteInduction (fun _ => hw) fun _ => ?_
    · refine .failWith ?_ _
      exact hw.adv.trans (.setFrag _ slot _ fun _ => ⟨rfl, rfl, id⟩)
    split
    · exact .of_panic hw.adv (hw.keep nofun)
    · exact iteInduction (fun _ => .of_ready hw.adv rfl rfl) fun _ => .of_ready hw.adv rfl rfl

theorem ReplyOK.mergeMSet (T : Tables) (K : Consts) (rtype : Nat) (h : Advances m0 m) (hd : m.done = m0.done) :
    ReplyOK m0 slot (mergeMSet T K m slot rtype) := by
  unfold Merge.mergeMSet
  extract_lets m2
  have hw : ReplyOK m0 slot (m2, .waiting) := .of_waiting h hd _ fun _ => ⟨rfl, rfl, rfl⟩
  clear_value m2
  exact iteInduction (fun _ => hw) fun _ => iteInduction (fun _ => .of_ready hw.adv rfl rfl) fun _ => .of_ready hw.adv rfl rfl

theorem ReplyOK.mergeDel (rtype : Nat) (body : Bytes) (h : Advances m0 m) (hd : m.done = m0.done) :
    ReplyOK m0 slot (mergeDel m slot rtype body) := by
  unfold Merge.mergeDel
  extract_lets n m2
  have hw : ReplyOK m0 slot (m2, .waiting) :=
    .of_waiting (m := { m with delNum := m.delNum + n }) (h.trans (.of_frags rfl)) hd _ fun _ => ⟨rfl, rfl, rfl⟩
  clear_value m2
  exact iteInduction (fun _ => hw) fun _ => .of_ready hw.adv rfl rfl

theorem ReplyOK.mergeDefault (rtype : Nat) (body : Bytes) (h : Advances m0 m) :
    ReplyOK m0 slot (mergeDefault m slot rtype body) :=
  .of_ready (h.trans (.setFrag m slot (fun x => { x with done := true, rtype := rtype }) fun _ => ⟨rfl, rfl, fun _ => rfl⟩))
    rfl rfl

end

/-- **the reply step**: whatever is merged, fragments are only ever completed, redirect counters are untouched,
    the request is complete exactly when `ready` is signalled, and the fragment answered is done unless the reply
    was a redirect -/
theorem onReply_ok (T : Tables) (K : Consts) (slotFn : Bytes → Nat) (limit : Nat) (m : MMsg) (slot rtype : Nat)
    (body : Bytes) : ReplyOK m slot (onReply T K slotFn limit m slot rtype body) := by
  have hb : Advances m (bump m) := .of_frags rfl
  apply onReply_cases
  · intro _; exact .of_panic (.refl m) rfl
  · intro f hf hd
    exact ⟨.refl m, fun _ => rfl, nofun, nofun, fun _ => ⟨rfl, fun f' hf' => by rw [hf] at hf'; cases hf'; exact hd⟩, nofun⟩
  · intro f hf _ _
    refine ⟨?_, fun _ => rfl, nofun, nofun, nofun, fun _ => ?_⟩
    · exact .setFrag m slot _ fun _ => ⟨rfl, rfl, id⟩
    · show (getFrag (setFrag m slot _) slot).isSome = true
      rw [getFrag_setFrag m slot (fun x => { x with rtype := rtype }) (fun _ => rfl), if_pos rfl, hf]; rfl
  · intro _ e _ _ _
    refine .failWith ?_ e
    exact hb.trans (.setFrag _ slot _ fun _ => ⟨rfl, rfl, id⟩)
  · intro _; exact .mergeMGet K slotFn limit rtype body hb rfl
  · intro _; exact .mergeMSet T K rtype hb rfl
  · intro _; exact .mergeDel rtype body hb rfl
  · exact .mergeDefault rtype body hb

/-! ### the replies to all fragments of a split request, in any order

  What MGET, MSET and DEL have in common: the answer for slot `s` is recorded in its fragment by some `g s`, the
  request waits while fragments are outstanding and is completed by the last answer. -/

theorem getFrag_of_mem (m : MMsg) (s : Nat) (h : s ∈ m.frags.map (·.slot)) : ∃ fr, getFrag m s = some fr := by
  obtain ⟨fr, hfr, hslot⟩ := List.mem_map.mp h
  exact Option.isSome_iff_exists.mp (List.find?_isSome.mpr ⟨fr, hfr, decide_eq_true hslot⟩)

section mid
variable (g : Nat → MFrag → MFrag)

def upd (ps : List Nat) (fr : MFrag) : MFrag := if fr.slot ∈ ps then g fr.slot fr else fr

/-- the request after the fragments of the slots `ps` have been answered, in whatever order -/
def mid (m0 : MMsg) (ps : List Nat) : MMsg :=
  { m0 with fragDone := ps.length, frags := m0.frags.map (upd g ps) }

def finish (m : MMsg) (rb : Bytes) : MMsg := { m with done := true, rspBody := rb }

theorem upd_pos {ps : List Nat} {fr : MFrag} (h : fr.slot ∈ ps) : upd g ps fr = g fr.slot fr := if_pos h

theorem upd_neg {ps : List Nat} {fr : MFrag} (h : fr.slot ∉ ps) : upd g ps fr = fr := if_neg h

theorem mid_nil (m0 : MMsg) (h : m0.fragDone = 0) : mid g m0 [] = m0 := by
  have : m0.frags.map (upd g []) = m0.frags :=
    (List.map_congr_left fun fr _ => upd_neg g List.not_mem_nil).trans (List.map_id' _)
  rw [mid, this, List.length_nil, ← h]

theorem mid_all (m0 : MMsg) (qs : List Nat) (hall : ∀ s ∈ m0.frags.map (·.slot), s ∈ qs) :
    (mid g m0 qs).frags = m0.frags.map fun fr => g fr.slot fr :=
  List.map_congr_left fun _ hfr => upd_pos g (hall _ (List.mem_map_of_mem hfr))

/-- the test by which a merge tells the last answer from the others, after `s` has been answered -/
theorem mid_waiting (m0 : MMsg) (ps : List Nat) (s : Nat) :
    (mid g m0 (ps ++ [s])).fragDone < (mid g m0 (ps ++ [s])).frags.length ↔ ps.length + 1 < m0.frags.length := by
  simp [mid]

variable (hg : ∀ s fr, (g s fr).slot = fr.slot)
include hg

theorem upd_slot (ps : List Nat) (fr : MFrag) : (upd g ps fr).slot = fr.slot := ite_slot (hg _ _)

theorem getFrag_mid (m0 : MMsg) (ps : List Nat) (s : Nat) :
    getFrag (mid g m0 ps) s = (getFrag m0 s).map (upd g ps) :=
  find?_map_slot m0.frags (upd g ps) (upd_slot g hg ps) s

/-- a fragment that has not been answered yet is as it was at the start -/
theorem getFrag_mid_fresh (m0 : MMsg) (hfresh : ∀ fr ∈ m0.frags, fr.done = false ∧ fr.err = []) (ps : List Nat) (s : Nat)
    (hs : s ∉ ps) (hmem : s ∈ m0.frags.map (·.slot)) :
    ∃ fr, getFrag (mid g m0 ps) s = some fr ∧ fr.done = false ∧ fr.err = [] := by
  obtain ⟨fr, hf⟩ := getFrag_of_mem m0 s hmem
  obtain ⟨hfr, hslot⟩ := getFrag_some_mem m0 s fr hf
  exact ⟨fr, by rw [getFrag_mid g hg, hf, Option.map_some, upd_neg g (hslot ▸ hs)], hfresh fr hfr⟩

theorem setFrag_mid (m0 : MMsg) (ps : List Nat) (s : Nat) (hs : s ∉ ps) :
    setFrag (bump (mid g m0 ps)) s (g s) = mid g m0 (ps ++ [s]) := by
  have hupd : ∀ fr, (if (upd g ps fr).slot = s then g s (upd g ps fr) else upd g ps fr) = upd g (ps ++ [s]) fr := by
    intro fr
    rw [upd_slot g hg]
    by_cases h : fr.slot = s
    · rw [if_pos h, upd_neg g (h ▸ hs), upd_pos g (List.mem_append_right ps (List.mem_singleton.mpr h)), h]
    · rw [if_neg h]
      by_cases h' : fr.slot ∈ ps
      · rw [upd_pos g h', upd_pos g (List.mem_append_left _ h')]
      · rw [upd_neg g h', upd_neg g fun hm => (List.mem_append.mp hm).elim h' fun h1 => h (List.mem_singleton.mp h1)]
  simp only [setFrag, bump, mid, List.map_map, Function.comp_def, hupd, List.length_append, List.length_cons, List.length_nil]

end mid

/-- **any arrival order**: if answering slot `s` after the slots `ps` takes `mids ps` to `mids (ps ++ [s])` and waits
    while fragments are outstanding, and to `fin (ps ++ [s])` signalling `ready` with the last one, then feeding the
    answers in any order of the slots ends in `fin`, with one `ready` at the end -/
theorem feed_any_order {σ : Type} (step : σ → Nat → σ × Signal) (mids fin : List Nat → σ) (slots : List Nat)
    (hnd : slots.Nodup)
    (hstep : ∀ ps s, s ∉ ps → s ∈ slots → (¬ ps.length + 1 < slots.length → ∀ x ∈ slots, x ∈ ps ++ [s]) →
      step (mids ps) s = if ps.length + 1 < slots.length then (mids (ps ++ [s]), .waiting) else (fin (ps ++ [s]), .ready))
    (hne : slots ≠ []) {start : σ} (h0 : mids [] = start) (order : List Nat) (hperm : order.Perm slots) :
    order.foldl (fun (acc : σ × List Signal) s => ((step acc.1 s).1, acc.2 ++ [(step acc.1 s).2])) (start, [])
      = (fin order, List.replicate (order.length - 1) Signal.waiting ++ [Signal.ready]) := by
  -- the slots `ps` have been answered, `rest` are still to come
  have go : ∀ (rest ps : List Nat) (sigs : List Signal), rest ≠ [] → (ps ++ rest).Perm slots →
      rest.foldl (fun (acc : σ × List Signal) s => ((step acc.1 s).1, acc.2 ++ [(step acc.1 s).2])) (mids ps, sigs)
        = (fin (ps ++ rest), sigs ++ (List.replicate (rest.length - 1) Signal.waiting ++ [Signal.ready])) := by
    intro rest
    induction rest with
    | nil => exact fun _ _ h => absurd rfl h
    | cons s rest ih =>
      intro ps sigs _ hp
      have hs : s ∉ ps := fun hin => (List.nodup_append.mp (hp.nodup_iff.mpr hnd)).2.2 s hin s List.mem_cons_self rfl
      have hmem : s ∈ slots := hp.mem_iff.mp (List.mem_append_right _ List.mem_cons_self)
      rw [List.foldl_cons]
      cases rest with
      | nil =>
        have hlen : ¬ ps.length + 1 < slots.length := by
          rw [← hp.length_eq, List.length_append, List.length_singleton]
          exact Nat.lt_irrefl _
        rw [hstep ps s hs hmem (fun _ x hx => hp.mem_iff.mpr hx), if_neg hlen]
        rfl
      | cons s' rest =>
        have hlt : ps.length + 1 < slots.length := by
          rw [← hp.length_eq, List.length_append, List.length_cons, List.length_cons]
          exact Nat.add_lt_add_left (Nat.succ_lt_succ (Nat.succ_pos _)) _
        rw [hstep ps s hs hmem (absurd hlt), if_pos hlt,
          ih (ps ++ [s]) (sigs ++ [Signal.waiting]) (List.cons_ne_nil _ _) (by rw [List.append_assoc]; exact hp),
          List.append_assoc, List.append_assoc]
        rfl
  exact h0 ▸ go order [] [] (fun h => hne (List.perm_nil.mp (h ▸ hperm).symm)) hperm

end RcVerif.Lemmas.MergeBasic
