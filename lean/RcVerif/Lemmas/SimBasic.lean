import RcVerif.Model.Sim
/-
  What the functions of the event-loop model do to the state, said once per function: lookups after an update; which
  half of the state a function leaves alone (`SameCM`: clients and requests; `ClientSide`: connections to redis,
  pools, slot table, flag); for every function that branches a case principle `f_cases`, one hypothesis per outcome
  with the resulting state written out (a proof about `f` picks its `P` and does not unfold `f`); and the step shared
  by `failFrags` and `expire` (`failStep`: complete the request of an unanswered fragment and flush its owner).
  A conditional with large branches is taken apart by `iteInduction` where `split` is slow to check.
-/
namespace RcVerif.Sim
open RcVerif.Merge

/-! ### lookups after an update -/

theorem setAt_length {α} (l : List α) (i : Nat) (f : α → α) : (setAt l i f).length = l.length := by
  simp [setAt]

theorem getElem?_setAt {α} (l : List α) (i j : Nat) (f : α → α) :
    (setAt l i f)[j]? = if j = i then (l[j]?).map f else l[j]? := by
  unfold setAt
  rw [List.getElem?_mapIdx]
  cases h : l[j]? with
  | none => simp
  | some x => by_cases hj : j = i <;> simp [hj]

theorem getElem?_setAt_self {α} (l : List α) (i : Nat) (f : α → α) (x : α) (h : l[i]? = some x) :
    (setAt l i f)[i]? = some (f x) := by
  rw [getElem?_setAt, if_pos rfl, h]; rfl

theorem getElem?_setAt_ne {α} (l : List α) (i j : Nat) (f : α → α) (h : j ≠ i) : (setAt l i f)[j]? = l[j]? := by
  rw [getElem?_setAt, if_neg h]

theorem setAt_congr {α} (l : List α) (i : Nat) (f g : α → α) (h : ∀ x, l[i]? = some x → f x = g x) :
    setAt l i f = setAt l i g := by
  apply List.ext_getElem?
  intro j
  rw [getElem?_setAt, getElem?_setAt]
  split
  · rename_i hj; subst hj
    cases hx : l[j]? with
    | none => rfl
    | some x => exact congrArg some (h x hx)
  · rfl

theorem setAt_setAt {α} (l : List α) (i : Nat) (f g : α → α) : setAt (setAt l i f) i g = setAt l i (g ∘ f) := by
  apply List.ext_getElem?
  intro j
  simp only [getElem?_setAt]
  split <;> simp

theorem setAt_cons_zero {α} (y : α) (ys : List α) (f : α → α) : setAt (y :: ys) 0 f = f y :: ys := by
  simp [setAt, List.mapIdx_cons, List.mapIdx_eq_iff]

theorem setAt_cons_succ {α} (y : α) (ys : List α) (b : Nat) (f : α → α) :
    setAt (y :: ys) (b + 1) f = y :: setAt ys b f := by
  simp [setAt, List.mapIdx_cons]

theorem sum_map_setAt {α} (l : List α) (b : Nat) (f : α → α) (g : α → Nat) (x : α) (d : Nat)
    (hx : l[b]? = some x) (hd : g (f x) = g x + d) : ((setAt l b f).map g).sum = (l.map g).sum + d := by
  induction l generalizing b with
  | nil => simp at hx
  | cons y ys ih =>
    cases b with
    | zero =>
      cases (Option.some.inj hx : y = x)
      rw [setAt_cons_zero, List.map_cons, List.sum_cons, List.map_cons, List.sum_cons, hd, Nat.add_right_comm]
    | succ b =>
      rw [setAt_cons_succ, List.map_cons, List.sum_cons, List.map_cons, List.sum_cons, ih b (by simpa using hx), Nat.add_assoc]

theorem setAt_none {α} (l : List α) (b : Nat) (f : α → α) (h : l[b]? = none) : setAt l b f = l := by
  apply List.ext_getElem?
  intro i
  rw [getElem?_setAt]
  by_cases hib : i = b
  · subst hib; simp [h]
  · cases l[i]? <;> simp [hib]

theorem getElem?_append_new {α} (l : List α) (x : α) (i : Nat) :
    (l ++ [x])[i]? = if i < l.length then l[i]? else if i = l.length then some x else none := by
  by_cases h : i < l.length
  · simp [h, List.getElem?_append_left h]
  · by_cases h2 : i = l.length
    · subst h2; simp
    · have : l.length + 1 ≤ i := by omega
      simp [h, h2, List.getElem?_eq_none (by simp; omega : (l ++ [x]).length ≤ i)]

theorem getElem?_append_old {α} (l : List α) (x a : α) (i : Nat) (h : l[i]? = some a) : (l ++ [x])[i]? = some a := by
  rw [List.getElem?_append_left (List.getElem?_eq_some_iff.mp h).1, h]

theorem forall_setAt {α} {P : Nat → α → Prop} (l : List α) (i : Nat) (f : α → α)
    (hoth : ∀ j y, j ≠ i → l[j]? = some y → P j y) (hi : ∀ x, l[i]? = some x → P i (f x)) :
    ∀ j y, (setAt l i f)[j]? = some y → P j y := by
  intro j y h
  rw [getElem?_setAt] at h
  split at h
  · rename_i hj
    subst hj
    obtain ⟨x, hx, rfl⟩ := Option.map_eq_some_iff.mp h
    exact hi x hx
  · rename_i hj; exact hoth j y hj h

theorem exists_setAt {α} {P : Nat → α → α → Prop} (l : List α) (i : Nat) (f : α → α)
    (hoth : ∀ j x, j ≠ i → P j x x) (hi : ∀ x, l[i]? = some x → P i x (f x)) :
    ∀ j x, l[j]? = some x → ∃ x', (setAt l i f)[j]? = some x' ∧ P j x x' := by
  intro j x h
  by_cases hj : j = i
  · subst hj; exact ⟨f x, getElem?_setAt_self l j f x h, hi x h⟩
  · exact ⟨x, (getElem?_setAt_ne l i j f hj).trans h, hoth j x hj⟩

theorem forall_append_new {α} {P : Nat → α → Prop} (l : List α) (x : α) (hl : ∀ j y, l[j]? = some y → P j y)
    (hx : P l.length x) : ∀ j y, (l ++ [x])[j]? = some y → P j y := by
  intro j y h
  rw [getElem?_append_new] at h
  by_cases h1 : j < l.length
  · rw [if_pos h1] at h; exact hl j y h
  · rw [if_neg h1] at h
    by_cases h2 : j = l.length
    · rw [if_pos h2] at h; cases h; exact h2 ▸ hx
    · rw [if_neg h2] at h; cases h

theorem client_upd_same (s : State) (c : Nat) (f : Client → Client) (cl : Client) (h : s.clients[c]? = some cl) :
    (s.updClient c f).clients[c]? = some (f cl) := getElem?_setAt_self _ c f cl h

theorem client_upd_other (s : State) (c c' : Nat) (f : Client → Client) (hne : c' ≠ c) :
    (s.updClient c f).clients[c']? = s.clients[c']? := getElem?_setAt_ne _ c c' f hne

theorem msgs_upd_same (s : State) (mi : Nat) (f : Req → Req) (r : Req) (hr : s.msgs[mi]? = some r) :
    (s.updReq mi f).msgs[mi]? = some (f r) := getElem?_setAt_self _ mi f r hr

theorem msgs_upd_other (s : State) (mi mj : Nat) (f : Req → Req) (h : mj ≠ mi) :
    (s.updReq mi f).msgs[mj]? = s.msgs[mj]? := getElem?_setAt_ne _ mi mj f h

theorem backend_upd_same (s : State) (b : Nat) (f : Backend → Backend) (x : Backend) (h : s.backends[b]? = some x) :
    (s.updBackend b f).backends[b]? = some (f x) := getElem?_setAt_self _ b f x h

theorem backend_upd_other (s : State) (b b' : Nat) (f : Backend → Backend) (h : b' ≠ b) :
    (s.updBackend b f).backends[b']? = s.backends[b']? := getElem?_setAt_ne _ b b' f h

theorem fail_cases {P : State → Prop} (s : State) (w : String) (flagged : s.flag.isSome = true → P s)
    (fresh : P { s with flag := some w }) : P (s.fail w) := by
  unfold State.fail
  split
  · rename_i h; exact flagged (by rw [h]; rfl)
  · exact fresh

theorem fail_flag (s : State) (w : String) : (s.fail w).flag.isSome = true :=
  fail_cases (P := fun s' => s'.flag.isSome = true) s w id rfl

theorem foldl_rel {α} {R : State → State → Prop} (refl : ∀ s, R s s) (trans : ∀ {a b c}, R a b → R b c → R a c)
    {f : State → α → State} (h : ∀ s a, R s (f s a)) (l : List α) (s : State) : R s (l.foldl f s) :=
  List.foldlRecOn l f (motive := R s) (refl s) fun b hb a _ => trans hb (h b a)

/-! ### steps that leave clients and requests alone -/

def SameCM (s s' : State) : Prop := s'.clients = s.clients ∧ s'.msgs = s.msgs

theorem SameCM.refl (s : State) : SameCM s s := ⟨rfl, rfl⟩
theorem SameCM.trans {a b c : State} (h1 : SameCM a b) (h2 : SameCM b c) : SameCM a c :=
  ⟨h2.1.trans h1.1, h2.2.trans h1.2⟩

theorem same_updBackend (s : State) (b : Nat) (f : Backend → Backend) : SameCM s (s.updBackend b f) := ⟨rfl, rfl⟩
theorem same_fail (s : State) (w : String) : SameCM s (s.fail w) := fail_cases s w (fun _ => .refl s) ⟨rfl, rfl⟩
theorem backends_fail (s : State) (w : String) : (s.fail w).backends = s.backends :=
  fail_cases (P := fun s' => s'.backends = s.backends) s w (fun _ => rfl) rfl
theorem pools_fail (s : State) (w : String) : (s.fail w).pools = s.pools :=
  fail_cases (P := fun s' => s'.pools = s.pools) s w (fun _ => rfl) rfl
theorem same_enqueueOut (s : State) (b : Nat) (e : QEntry) : SameCM s (enqueueOut s b e) := ⟨rfl, rfl⟩
theorem same_dropTimeout (s : State) (f : FragRef) : SameCM s (dropTimeout s f) := ⟨rfl, rfl⟩

/-- a write signal does nothing (no such connection, closed, or nothing pending), or writes the whole pending queue -/
theorem writeSignal_cases {P : State → Prop} (S : Strs) (cfg : Cfg) (s : State) (b : Nat) (idle : P s)
    (written : ∀ x ts, s.backends[b]? = some x → x.opened = true →
      P { s.updBackend b (fun y => { y with
              inQ := y.inQ ++ y.outQ.map (·.ref)
              sent := y.sent ++ y.outQ
              outQ := []
              out := y.out ++ (x.outQ.map (·.bytes)).flatten }) with
          timeouts := ts }) : P (writeSignal S cfg s b) := by
  unfold writeSignal
  split
  · exact idle
  · rename_i x hx
    refine iteInduction (fun _ => idle) fun hc => ?_
    exact written x _ hx (by simpa using (not_or.mp hc).1)

theorem same_writeSignal (S : Strs) (cfg : Cfg) (s : State) (b : Nat) : SameCM s (writeSignal S cfg s b) :=
  writeSignal_cases S cfg s b (.refl s) fun _ _ _ _ => ⟨rfl, rfl⟩

theorem flag_writeSignal (S : Strs) (cfg : Cfg) (s : State) (b : Nat) : (writeSignal S cfg s b).flag = s.flag :=
  writeSignal_cases (P := fun s' => s'.flag = s.flag) S cfg s b rfl fun _ _ _ _ => rfl

theorem foldl_enqueue_same (targets : List (Nat × Nat)) (g : Nat × Nat → QEntry) (s : State) :
    SameCM s (targets.foldl (fun st t => enqueueOut st t.2 (g t)) s) :=
  foldl_rel SameCM.refl SameCM.trans (fun s _ => same_enqueueOut s _ _) targets s

theorem foldl_dropTimeout_same (refs : List FragRef) (s : State) : SameCM s (refs.foldl dropTimeout s) :=
  foldl_rel SameCM.refl SameCM.trans same_dropTimeout refs s

theorem poolRemove_cases {P : State → Prop} (s : State) (p : Nat) (idle : P s)
    (removed : ∀ pool, s.pools[p]? = some pool → pool.removed = false →
      P { s with pools := setAt s.pools p (fun q => { q with removed := true, active := [] })
                 tasks := s.tasks ++ pool.active.map Task.close }) : P (poolRemove s p) := by
  unfold poolRemove
  split
  · exact idle
  · rename_i pool hp
    split
    · exact idle
    · rename_i hr; exact removed pool hp (Bool.eq_false_iff.mpr hr)

theorem same_poolRemove (s : State) (p : Nat) : SameCM s (poolRemove s p) :=
  poolRemove_cases s p (.refl s) fun _ _ _ => ⟨rfl, rfl⟩

theorem backends_poolRemove (s : State) (p : Nat) : (poolRemove s p).backends = s.backends :=
  poolRemove_cases (P := fun s' => s'.backends = s.backends) s p rfl fun _ _ _ => rfl

theorem findPool_spec (pools : List Pool) (addr : Bytes) (p : Nat) (h : findPool pools addr = some p) :
    ∃ pool, pools[p]? = some pool ∧ pool.addr = addr ∧ pool.removed = false := by
  unfold findPool at h
  obtain ⟨hlt, hpred, _⟩ := List.findIdx?_eq_some_iff_getElem.mp h
  have hpred := of_decide_eq_true hpred
  exact ⟨pools[p], List.getElem?_eq_getElem hlt, hpred.1, by simpa using hpred.2⟩

/-! ### `Pool.Get` -/

/-- the connection `dial` opens: the handshake is written at once -/
def newConn (S : Strs) (cfg : Cfg) (pool : Pool) : Backend :=
  { addr := pool.addr, isSlave := pool.isSlave, initSteps := (handshake S cfg pool.isSlave).2,
    initializing := (handshake S cfg pool.isSlave).2 > 0, out := (handshake S cfg pool.isSlave).1,
    hs := (handshake S cfg pool.isSlave).1 }

/-- one turn of the rotation loop: the connection at the back is taken if it is open, dropped otherwise -/
theorem rotate_concat (backends : List Backend) (fuel : Nat) (t : List Nat) (a : Nat) :
    rotate backends (fuel + 1) (t ++ [a]) =
      match backends[a]? with
      | some b => if b.opened then some (a, a :: t) else rotate backends fuel t
      | none => rotate backends fuel t := by
  rw [rotate, List.getLast?_concat, List.dropLast_concat]
  rfl

theorem rotate_spec (backends : List Backend) (fuel : Nat) (active : List Nat) (id : Nat) (act' : List Nat)
    (h : rotate backends fuel active = some (id, act')) :
    id ∈ active ∧ (∀ x ∈ act', x ∈ active) ∧ ∃ b, backends[id]? = some b ∧ b.opened = true := by
  induction fuel generalizing active with
  | zero => cases h
  | succ fuel ih =>
    rcases List.eq_nil_or_concat active with rfl | ⟨t, a, rfl⟩
    · cases h
    · rw [List.concat_eq_append] at h ⊢
      rw [rotate_concat] at h
      -- the search goes on in `t`
      have hrec : rotate backends fuel t = some (id, act') →
          id ∈ t ++ [a] ∧ (∀ x ∈ act', x ∈ t ++ [a]) ∧ ∃ b, backends[id]? = some b ∧ b.opened = true := fun h =>
        let ⟨i1, i2, i3⟩ := ih t h
        ⟨List.mem_append_left _ i1, fun x hx => List.mem_append_left _ (i2 x hx), i3⟩
      split at h
      · rename_i b hb
        split at h
        · rename_i ho
          cases h
          exact ⟨by simp, fun x hx => by simpa [or_comm] using hx, b, hb, ho⟩
        · exact hrec h
      · exact hrec h

theorem dial_eq (S : Strs) (cfg : Cfg) (s : State) (p : Nat) (pool : Pool) (hp : s.pools[p]? = some pool) :
    dial S cfg s p =
      ({ s with
          backends := s.backends ++ [newConn S cfg pool]
          pools := setAt s.pools p (fun q => { q with active := s.backends.length :: q.active }) },
        s.backends.length) := by
  unfold dial
  rw [hp]
  rfl

/-- the three outcomes of `Pool.Get`: no such pool; an open pooled connection, the closed ones behind it evicted; a new
    connection, put in front of what is left of the list (all of it, or nothing after an eviction of everything) -/
theorem poolGet_cases {P : State × Nat → Prop} (S : Strs) (cfg : Cfg) (s : State) (p : Nat)
    (nopool : s.pools[p]? = none → P (s.fail "panic", 0))
    (reused : ∀ pool id act' b, s.pools[p]? = some pool → id ∈ pool.active → (∀ x ∈ act', x ∈ pool.active) →
      s.backends[id]? = some b → b.opened = true →
      P ({ s with pools := setAt s.pools p (fun q => { q with active := act' }) }, id))
    (dialled : ∀ pool act, s.pools[p]? = some pool → (∀ x ∈ act, x ∈ pool.active) →
      P ({ s with
            backends := s.backends ++ [newConn S cfg pool]
            pools := setAt s.pools p (fun q => { q with active := s.backends.length :: act }) },
          s.backends.length)) :
    P (poolGet S cfg s p) := by
  unfold poolGet
  cases hp : s.pools[p]? with
  | none => exact nopool hp
  | some pool =>
    dsimp only
    refine iteInduction (fun _ => ?_) fun _ => ?_
    · rw [dial_eq S cfg s p pool hp, setAt_congr s.pools p _ (fun q => { q with active := s.backends.length :: pool.active })
        fun q hq => by rw [hp] at hq; cases hq; rfl]
      exact dialled pool pool.active hp fun _ h => h
    · cases hrot : rotate s.backends (pool.active.length + 1) pool.active with
      | some r =>
        obtain ⟨h1, h2, b, h3, h4⟩ := rotate_spec _ _ _ r.1 r.2 hrot
        exact reused pool r.1 r.2 b hp h1 h2 h3 h4
      | none =>
        rw [dial_eq S cfg _ p { pool with active := [] } (getElem?_setAt_self _ p _ pool hp)]
        show P (({ s with backends := _, pools := setAt (setAt s.pools p _) p _ } : State), _)
        rw [setAt_setAt]
        exact dialled pool [] hp nofun

theorem poolGet_rel {R : State → State → Prop} (S : Strs) (cfg : Cfg) (s : State) (p : Nat) (hfail : R s (s.fail "panic"))
    (hpools : ∀ ps, R s { s with pools := ps })
    (hnew : ∀ pool ps, s.pools[p]? = some pool → R s { s with backends := s.backends ++ [newConn S cfg pool], pools := ps }) :
    R s (poolGet S cfg s p).1 :=
  poolGet_cases (P := fun r => R s r.1) S cfg s p (fun _ => hfail) (fun _ _ _ _ _ _ _ _ _ => hpools _)
    fun pool _ hp _ => hnew pool _ hp

theorem same_poolGet (S : Strs) (cfg : Cfg) (s : State) (p : Nat) : SameCM s (poolGet S cfg s p).1 :=
  poolGet_rel S cfg s p (same_fail s _) (fun _ => ⟨rfl, rfl⟩) (fun _ _ _ => ⟨rfl, rfl⟩)

theorem resolve_ind {Q : State → List (Nat × Nat) → Prop} (T : Tables) (S : Strs) (cfg : Cfg) (ty : Nat)
    (hfail : ∀ s acc w, Q s acc → Q (s.fail w) acc)
    (hget : ∀ s acc slot addr rs p, Q s acc → slotOwner s.table slot = some rs →
      routeAdmissible T cfg s ty rs addr = true → findPool s.pools addr = some p →
      Q (poolGet S cfg s p).1 (acc ++ [(slot, (poolGet S cfg s p).2)])) :
    ∀ vs s acc, Q s acc → Q (resolve T S cfg ty s vs acc).1 (resolve T S cfg ty s vs acc).2.1 := by
  intro vs
  induction vs with
  | nil => exact fun _ _ h => h
  | cons v vs ih =>
    intro s acc h
    unfold resolve
    split
    · exact h
    · rename_i rs hown
      split
      · exact hfail s acc _ h
      · rename_i hadm
        split
        · exact h
        · split
          · exact h
          · rename_i p hp
            exact ih _ _ (hget s acc v.1 v.2 rs p h hown (by simpa using hadm) hp)

theorem resolve_rel {R : State → State → Prop} (T : Tables) (S : Strs) (cfg : Cfg) (ty : Nat) (refl : ∀ s, R s s)
    (trans : ∀ {a b c}, R a b → R b c → R a c) (hfail : ∀ s w, R s (s.fail w)) (hget : ∀ s p, R s (poolGet S cfg s p).1)
    (s : State) (vs : List (Nat × Bytes)) (acc : List (Nat × Nat)) : R s (resolve T S cfg ty s vs acc).1 :=
  resolve_ind (Q := fun s' _ => R s s') T S cfg ty (fun _ _ w h => trans h (hfail _ w))
    (fun _ _ _ _ _ p h _ _ _ => trans h (hget _ p)) vs s acc (refl s)

theorem same_resolve (T : Tables) (S : Strs) (cfg : Cfg) (ty : Nat) (s : State) (vs : List (Nat × Bytes)) (acc : List (Nat × Nat)) :
    SameCM s (resolve T S cfg ty s vs acc).1 :=
  resolve_rel T S cfg ty SameCM.refl SameCM.trans same_fail (same_poolGet S cfg) s vs acc

theorem init_ind {I : State → Prop} (S : Strs) (cfg : Cfg) (pools : List (Bytes × Bool)) (table : List (Nat × Nat × RSet))
    (h0 : I { pools := pools.map (fun p => { addr := p.1, isSlave := p.2 }), table := table })
    (hget : ∀ s p, I s → I (poolGet S cfg s p).1) : I (init S cfg pools table) :=
  List.foldlRecOn _ _ (motive := I) h0 fun s h p _ => hget s p h

theorem poolGet_open (S : Strs) (cfg : Cfg) (s : State) (p : Nat) (pool : Pool) (hp : s.pools[p]? = some pool) :
    ∃ b, (poolGet S cfg s p).1.backends[(poolGet S cfg s p).2]? = some b ∧ b.opened = true :=
  poolGet_cases (P := fun r => ∃ b, r.1.backends[r.2]? = some b ∧ b.opened = true) S cfg s p
    (fun hn => nomatch hp.symm.trans hn) (fun _ _ _ b _ _ _ hb ho => ⟨b, hb, ho⟩)
    fun pool' _ _ _ => ⟨newConn S cfg pool', List.getElem?_concat_length, rfl⟩

/-! ### steps that leave the redis side alone -/

/-- connections to redis, pools, slot table and flag are untouched: the step worked on clients, requests,
    deadlines or the task queue only -/
structure ClientSide (s s' : State) : Prop where
  backends : s'.backends = s.backends
  pools : s'.pools = s.pools
  table : s'.table = s.table
  flag : s'.flag = s.flag

theorem ClientSide.refl (s : State) : ClientSide s s := ⟨rfl, rfl, rfl, rfl⟩
theorem ClientSide.trans {a b c : State} (h1 : ClientSide a b) (h2 : ClientSide b c) : ClientSide a c :=
  ⟨h2.1.trans h1.1, h2.2.trans h1.2, h2.3.trans h1.3, h2.4.trans h1.4⟩

theorem cs_updClient (s : State) (c : Nat) (f : Client → Client) : ClientSide s (s.updClient c f) := ⟨rfl, rfl, rfl, rfl⟩
theorem cs_updReq (s : State) (mi : Nat) (f : Req → Req) : ClientSide s (s.updReq mi f) := ⟨rfl, rfl, rfl, rfl⟩
theorem cs_closeClient (s : State) (c : Nat) : ClientSide s (closeClient s c) := ⟨rfl, rfl, rfl, rfl⟩
theorem cs_dropTimeout (s : State) (f : FragRef) : ClientSide s (dropTimeout s f) := ⟨rfl, rfl, rfl, rfl⟩

/-- the update a flush applies to the connection when there is something to deliver -/
def flushUpd (s : State) (cl : Client) : Client → Client :=
  let ds := donePrefix s.msgs cl.queue
  let replies := ds.filterMap (fun i => (s.msgs[i]?).map (fun r => (r.num, r.m.rspBody)))
  fun cl0 => { cl0 with out := cl0.out ++ (replies.map (·.2)).flatten, queue := cl0.queue.drop ds.length,
                        log := cl0.log ++ replies }

/-- one hypothesis per outcome of a flush: nothing to deliver (no open connection `c`, or no completed request at
    the head of its queue), delivered, delivered and closed (QUIT) -/
theorem flushClient_cases {P : State → Prop} (s : State) (c : Nat)
    (idle : (∀ cl, s.clients[c]? = some cl → cl.opened = true → donePrefix s.msgs cl.queue = []) → P s)
    (flushed : ∀ cl, s.clients[c]? = some cl → cl.opened = true → donePrefix s.msgs cl.queue ≠ [] →
      P (s.updClient c (flushUpd s cl)))
    (closed : ∀ cl, s.clients[c]? = some cl → cl.opened = true → donePrefix s.msgs cl.queue ≠ [] →
      P (closeClient (s.updClient c (flushUpd s cl)) c)) :
    P (flushClient s c) := by
  unfold flushClient State.client
  cases hcl : s.clients[c]? with
  | none => exact idle fun cl h => by rw [hcl] at h; cases h
  | some cl =>
    dsimp only
    cases hop : cl.opened with
    | false => exact idle fun cl' h ho => by rw [hcl] at h; cases h; rw [hop] at ho; cases ho
    | true =>
      rw [if_neg (by simp)]
      cases hds : donePrefix s.msgs cl.queue with
      | nil => exact idle fun cl' h _ => by rw [hcl] at h; cases h; exact hds
      | cons d ds =>
        rw [if_neg (by simp)]
        have hf := flushed cl hcl hop (by rw [hds]; nofun)
        have hc := closed cl hcl hop (by rw [hds]; nofun)
        unfold flushUpd at hf hc
        rw [hds] at hf hc
        split
        · split
          · exact hc
          · exact hf
        · exact hf

theorem cs_flushClient (s : State) (c : Nat) : ClientSide s (flushClient s c) :=
  flushClient_cases s c (fun _ => .refl s) (fun _ _ _ _ => ⟨rfl, rfl, rfl, rfl⟩) (fun _ _ _ _ => ⟨rfl, rfl, rfl, rfl⟩)

theorem msgs_flushClient (s : State) (c : Nat) : (flushClient s c).msgs = s.msgs :=
  flushClient_cases (P := fun s' => s'.msgs = s.msgs) s c (fun _ => rfl) (fun _ _ _ _ => rfl) (fun _ _ _ _ => rfl)

theorem flushClient_idle (s : State) (c : Nat)
    (h : ∀ cl, s.clients[c]? = some cl → cl.opened = true → donePrefix s.msgs cl.queue = []) : flushClient s c = s :=
  flushClient_cases (P := fun s' => s' = s) s c (fun _ => rfl) (fun cl hcl hop hne => absurd (h cl hcl hop) hne)
    fun cl hcl hop hne => absurd (h cl hcl hop) hne

/-- `deliver` closes the connection or flushes it (a flush of a connection that is gone does nothing) -/
theorem deliver_cases {P : State → Prop} (s : State) (c : Nat) (closed : P (closeClient s c)) (flushed : P (flushClient s c)) :
    P (deliver s c) := by
  have hidle : (∀ cl, s.clients[c]? = some cl → cl.opened = false) → P s := fun h =>
    flushClient_idle s c (fun cl hcl hop => absurd hop (by rw [h cl hcl]; nofun)) ▸ flushed
  unfold deliver State.client
  cases hcl : s.clients[c]? with
  | none => exact hidle fun cl' h => by rw [hcl] at h; cases h
  | some cl =>
    dsimp only
    cases hop : cl.opened with
    | false => exact hidle fun cl' h => by rw [hcl] at h; cases h; exact hop
    | true =>
      rw [if_neg (by simp)]
      split
      · exact closed
      · exact flushed

theorem cs_deliver (s : State) (c : Nat) : ClientSide s (deliver s c) :=
  deliver_cases s c (cs_closeClient s c) (cs_flushClient s c)

theorem msgs_deliver (s : State) (c : Nat) : (deliver s c).msgs = s.msgs :=
  deliver_cases (P := fun s' => s'.msgs = s.msgs) s c rfl (msgs_flushClient s c)

def pushReq (s : State) (c : Nat) (r : Req) : State :=
  { s with msgs := s.msgs ++ [r] }.updClient c (fun cl => { cl with decoded := cl.decoded + 1, queue := cl.queue ++ [s.msgs.length] })

/-- one hypothesis per outcome of a locally produced reply: no such connection; written at once; queued -/
theorem answerLocal_cases {P : State → Prop} (s : State) (c : Nat) (m : MMsg) (out : Bytes) (gone : P s)
    (now : ∀ cl, s.clients[c]? = some cl → cl.queue = [] →
      P (s.updClient c fun cl' => { cl' with decoded := cl'.decoded + 1, out := cl'.out ++ out, log := cl'.log ++ [(cl.decoded, out)] }))
    (queued : ∀ cl, s.clients[c]? = some cl → cl.queue ≠ [] →
      P (pushReq s c { owner := c, num := cl.decoded, m := { m with rspBody := out, done := true } })) :
    P (answerLocal s c m out) := by
  unfold answerLocal State.client
  split
  · exact gone
  · rename_i cl hcl
    dsimp only
    split
    · rename_i hq; exact now cl hcl (List.isEmpty_iff.mp hq)
    · rename_i hq; exact queued cl hcl fun h => hq (List.isEmpty_iff.mpr h)

theorem cs_answerLocal (s : State) (c : Nat) (m : MMsg) (out : Bytes) : ClientSide s (answerLocal s c m out) :=
  answerLocal_cases s c m out (.refl s) (fun _ _ _ => ⟨rfl, rfl, rfl, rfl⟩) (fun _ _ _ => ⟨rfl, rfl, rfl, rfl⟩)

theorem acceptReq_eq (s : State) (c : Nat) (m : MMsg) (cl : Client) (hc : s.clients[c]? = some cl) :
    acceptReq s c m = (pushReq s c { owner := c, num := cl.decoded, m := { m with done := false } }, s.msgs.length) := by
  unfold acceptReq
  rw [show s.client c = some cl from hc]
  rfl

theorem acceptReq_none (s : State) (c : Nat) (m : MMsg) (hc : s.clients[c]? = none) : acceptReq s c m = (s, s.msgs.length) := by
  unfold acceptReq
  rw [show s.client c = none from hc]

theorem acceptReq_cases {P : State × Nat → Prop} (s : State) (c : Nat) (m : MMsg) (gone : P (s, s.msgs.length))
    (stored : ∀ cl, s.clients[c]? = some cl →
      P (pushReq s c { owner := c, num := cl.decoded, m := { m with done := false } }, s.msgs.length)) :
    P (acceptReq s c m) := by
  cases hc : s.clients[c]? with
  | none => rw [acceptReq_none s c m hc]; exact gone
  | some cl => rw [acceptReq_eq s c m cl hc]; exact stored cl hc

theorem cs_acceptReq (s : State) (c : Nat) (m : MMsg) : ClientSide s (acceptReq s c m).1 :=
  acceptReq_cases (P := fun p => ClientSide s p.1) s c m (.refl s) fun _ _ => ⟨rfl, rfl, rfl, rfl⟩

/-! ### forwarding a request -/

/-- the request object as stored: its fragments in the order the slots were visited -/
def fwdMsg (cm : CDecode.CMsg) (targets : List (Nat × Nat)) : MMsg :=
  { ofCMsg cm with frags := targets.filterMap (fun t => getFrag (ofCMsg cm) t.1) }

def fwdEntry (cm : CDecode.CMsg) (c id n : Nat) (t : Nat × Nat) : QEntry :=
  { ref := .frag id t.1, bytes := ((getFrag (ofCMsg cm) t.1).map (·.req)).getD [], direct := some (c, n) }

def accepted (s : State) (c : Nat) (cm : CDecode.CMsg) (targets : List (Nat × Nat)) : State :=
  targets.foldl (fun st t => enqueueOut st t.2
      (fwdEntry cm c (acceptReq s c (fwdMsg cm targets)).2 (((s.client c).map (·.decoded)).getD 0) t))
    (acceptReq s c (fwdMsg cm targets)).1

theorem accepted_cases {P : State → Prop} (s : State) (c : Nat) (cm : CDecode.CMsg) (targets : List (Nat × Nat))
    (gone : s.clients[c]? = none →
      P (targets.foldl (fun st t => enqueueOut st t.2 (fwdEntry cm c s.msgs.length 0 t)) s))
    (stored : ∀ cl, s.clients[c]? = some cl →
      P (targets.foldl (fun st t => enqueueOut st t.2 (fwdEntry cm c s.msgs.length cl.decoded t))
        (pushReq s c { owner := c, num := cl.decoded, m := { fwdMsg cm targets with done := false } }))) :
    P (accepted s c cm targets) := by
  unfold accepted
  cases hc : s.clients[c]? with
  | none =>
    rw [acceptReq_none s c _ hc, show s.client c = none from hc]
    exact gone hc
  | some cl =>
    rw [acceptReq_eq s c _ cl hc, show s.client c = some cl from hc]
    exact stored cl hc

theorem forward_cases {P : State → Prop} (T : Tables) (S : Strs) (cfg : Cfg) (s : State) (c : Nat) (cm : CDecode.CMsg)
    (ch : ReqChoice) (bad : P (s.fail "badChoice"))
    (rejected : ∀ e, P (answerLocal (resolve T S cfg cm.type s ch.visit []).1 c (ofCMsg cm) e))
    (flagged : (resolve T S cfg cm.type s ch.visit []).1.flag.isSome = true → P (resolve T S cfg cm.type s ch.visit []).1)
    (bad' : P ((resolve T S cfg cm.type s ch.visit []).1.fail "badChoice"))
    (ok : P (accepted (resolve T S cfg cm.type s ch.visit []).1 c cm (resolve T S cfg cm.type s ch.visit []).2.1)) :
    P (forward T S cfg s c cm ch) := by
  unfold forward
  dsimp only
  refine iteInduction (fun _ => bad) fun _ => ?_
  generalize resolve T S cfg cm.type s ch.visit [] = res at rejected flagged bad' ok
  obtain ⟨s1, targets, rej⟩ := res
  cases rej with
  | some e => exact rejected e
  | none => exact iteInduction flagged fun _ => iteInduction (fun _ => bad') fun _ => ok

/-! ### completing the request of an unanswered fragment -/

/-- what `failFrags` (a lost connection) and `expire` (a deadline) do per fragment: if it is still unanswered, its
    request is completed and the owner flushed; `g m slot m'` says how, from the request `m` that was looked up and
    the request `m'` the update finds (the same one: the code names either) -/
def failStep (g : MMsg → Nat → MMsg → MMsg) (s : State) : FragRef → State
  | .frag mi slot =>
    match s.req mi with
    | none => s
    | some r =>
      match getFrag r.m slot with
      | none => s
      | some fr =>
        if fr.done then s else flushClient (s.updReq mi (fun r' => { r' with m := g r.m slot r'.m })) r.owner
  | _ => s

/-- `Frag.Fail`: the error is recorded on the fragment of `slot` and the whole request completed with it -/
def failedMsg (e : Bytes) (m : MMsg) (slot : Nat) : MMsg := failReq (setFrag m slot (fun f => { f with err := e })) e

theorem failedMsg_frags_done (e : Bytes) (m : MMsg) (slot : Nat) : ∀ x ∈ (failedMsg e m slot).frags, x.done = true := by
  intro x hx
  simp only [failedMsg, failReq, allDone, List.mem_map] at hx
  obtain ⟨_, _, rfl⟩ := hx
  rfl

def lostMsg (S : Strs) (_ : MMsg) (slot : Nat) (m : MMsg) : MMsg := failedMsg S.errBackendClosed m slot

def timedOutMsg (S : Strs) (m : MMsg) (_ : Nat) (_ : MMsg) : MMsg :=
  let m1 : MMsg := { m with frags := m.frags.map (fun x => if x.done then x else { x with err := S.errTimeout, done := true }) }
  { m1 with err := S.errTimeout, rspBody := S.errTimeout, fragDone := m1.frags.length, done := true }

theorem timedOutMsg_frags_done (S : Strs) (m : MMsg) (slot : Nat) : ∀ x ∈ (timedOutMsg S m slot m).frags, x.done = true := by
  intro x hx
  simp only [timedOutMsg, List.mem_map] at hx
  obtain ⟨y, _, rfl⟩ := hx
  split
  · assumption
  · rfl

theorem failFrags_eq (S : Strs) (s : State) (refs : List FragRef) :
    failFrags S s refs = refs.foldl (failStep (lostMsg S)) s := rfl

theorem expire_eq (S : Strs) (s : State) (n : Nat) :
    expire S s n = { ((liveDeadlines s).take n).foldl (failStep (timedOutMsg S)) s with
      timeouts := (liveDeadlines s).drop n } := rfl

theorem failStep_cases {P : State → Prop} (g : MMsg → Nat → MMsg → MMsg) (s : State) (f : FragRef) (idle : P s)
    (failed : ∀ mi slot r, f = .frag mi slot → s.msgs[mi]? = some r →
      P (flushClient (s.updReq mi (fun r' => { r' with m := g r.m slot r'.m })) r.owner)) : P (failStep g s f) := by
  unfold failStep
  split
  · split
    · exact idle
    · rename_i r hr
      split
      · exact idle
      · split
        · exact idle
        · exact failed _ _ r rfl hr
  · exact idle

theorem cs_failStep (g : MMsg → Nat → MMsg → MMsg) (s : State) (f : FragRef) : ClientSide s (failStep g s f) :=
  failStep_cases g s f (.refl s) fun _ _ _ _ _ => (cs_updReq s _ _).trans (cs_flushClient _ _)

theorem cs_expire (S : Strs) (s : State) (n : Nat) : ClientSide s (expire S s n) := by
  rw [expire_eq]
  exact (foldl_rel ClientSide.refl ClientSide.trans (cs_failStep _) _ s).trans ⟨rfl, rfl, rfl, rfl⟩

section
variable (g : MMsg → Nat → MMsg → MMsg)

theorem failStep_other (s : State) (f : FragRef) (mj : Nat) (h : ∀ slot, f ≠ .frag mj slot) :
    (failStep g s f).msgs[mj]? = s.msgs[mj]? :=
  failStep_cases (P := fun s' => s'.msgs[mj]? = s.msgs[mj]?) g s f rfl fun mi slot _ hf _ => by
    rw [msgs_flushClient, msgs_upd_other _ mi mj _ fun e => h slot (e ▸ hf)]

theorem failStep_at (s : State) (mi slot : Nat) (r : Req) (hr : s.msgs[mi]? = some r) :
    (failStep g s (.frag mi slot)).msgs[mi]? =
      some (match getFrag r.m slot with
        | some fr => if fr.done then r else { r with m := g r.m slot r.m }
        | none => r) := by
  unfold failStep State.req
  dsimp only
  rw [hr]
  dsimp only
  cases getFrag r.m slot with
  | none => exact hr
  | some fr =>
    dsimp only
    by_cases hd : fr.done = true
    · rw [if_pos hd, if_pos hd]; exact hr
    · rw [if_neg hd, if_neg hd, msgs_flushClient]
      exact msgs_upd_same s mi _ r hr

theorem failStep_same (s : State) (f : FragRef) (mi : Nat) (r : Req) (hr : s.msgs[mi]? = some r)
    (h : ∀ slot fr, f = .frag mi slot → getFrag r.m slot = some fr → fr.done = true) : (failStep g s f).msgs[mi]? = some r := by
  by_cases hf : ∃ slot, f = .frag mi slot
  · obtain ⟨slot, rfl⟩ := hf
    rw [failStep_at g s mi slot r hr]
    split
    · rename_i fr hfr
      rw [if_pos (h slot fr rfl hfr)]
    · rfl
  · rw [failStep_other g s f mi fun slot e => hf ⟨slot, e⟩]; exact hr

theorem failStep_done (s : State) (f : FragRef) (mi : Nat) (r : Req) (hr : s.msgs[mi]? = some r)
    (hall : ∀ x ∈ r.m.frags, x.done = true) : (failStep g s f).msgs[mi]? = some r :=
  failStep_same g s f mi r hr fun _ fr _ hfr => hall fr (List.mem_of_find?_eq_some hfr)

theorem failStep_undone (s : State) (mi slot : Nat) (r : Req) (fr : MFrag) (hr : s.msgs[mi]? = some r)
    (hfr : getFrag r.m slot = some fr) (hnd : fr.done = false) :
    (failStep g s (.frag mi slot)).msgs[mi]? = some { r with m := g r.m slot r.m } := by
  rw [failStep_at g s mi slot r hr, hfr]
  simp [hnd]

/-- once a scan has completed a request, all its fragments are done, so the rest of the scan leaves it alone -/
theorem foldl_failStep (hg : ∀ m slot, ∀ x ∈ (g m slot m).frags, x.done = true) (ts : List FragRef) (s : State)
    (mi : Nat) (r : Req) (hr : s.msgs[mi]? = some r) :
    ((∀ x ∈ r.m.frags, x.done = true) → (ts.foldl (failStep g) s).msgs[mi]? = some r) ∧
    ((∃ slot fr, FragRef.frag mi slot ∈ ts ∧ getFrag r.m slot = some fr ∧ fr.done = false) →
      ∃ slot, (ts.foldl (failStep g) s).msgs[mi]? = some { r with m := g r.m slot r.m }) := by
  induction ts generalizing s r with
  | nil => exact ⟨fun _ => hr, fun ⟨_, _, hmem, _⟩ => nomatch hmem⟩
  | cons f ts ih =>
    rw [List.foldl_cons]
    refine ⟨fun hall => (ih _ r (failStep_done g s f mi r hr hall)).1 hall, fun ⟨slot, fr, hmem, hfr, hnd⟩ => ?_⟩
    -- the first scanned entry that names an unanswered fragment of `r` completes it; the rest leaves it alone
    by_cases hf : ∃ slot' fr', f = .frag mi slot' ∧ getFrag r.m slot' = some fr' ∧ fr'.done = false
    · obtain ⟨slot', fr', rfl, hfr', hnd'⟩ := hf
      exact ⟨slot', (ih _ _ (failStep_undone g s mi slot' r fr' hr hfr' hnd')).1 (hg _ _)⟩
    · have hsame : (failStep g s f).msgs[mi]? = some r :=
        failStep_same g s f mi r hr fun slot' fr' e hfr' => Bool.not_eq_false _ ▸ fun hd => hf ⟨slot', fr', e, hfr', hd⟩
      have hmem' : FragRef.frag mi slot ∈ ts :=
        (List.mem_cons.mp hmem).resolve_left fun he => hf ⟨slot, fr, he.symm, hfr, hnd⟩
      exact (ih _ r hsame).2 ⟨slot, fr, hmem', hfr, hnd⟩

theorem foldl_failStep_other (ts : List FragRef) (s : State) (mj : Nat) (h : ∀ slot, FragRef.frag mj slot ∉ ts) :
    (ts.foldl (failStep g) s).msgs[mj]? = s.msgs[mj]? :=
  List.foldlRecOn ts (failStep g) (motive := fun x => x.msgs[mj]? = s.msgs[mj]?) rfl
    fun x hx f hf => (failStep_other g x f mj fun slot e => h slot (e ▸ hf)).trans hx

end

/-! ### following a redirect -/

def bumpRed (s : State) (mi slot : Nat) : State :=
  s.updReq mi (fun r => { r with m := setFrag r.m slot (fun f => { f with redirects := f.redirects + 1 }) })

def failOne (s : State) (mi slot : Nat) (e : Bytes) (owner : Nat) : State :=
  flushClient (s.updReq mi (fun r => { r with m := failedMsg e r.m slot })) owner

/-- the fragment is queued again, on the connection `Pool.Get` returns for pool `p`; ASKING goes first for an ASK -/
def resendTo (S : Strs) (cfg : Cfg) (s : State) (mi slot : Nat) (isAsk : Bool) (p : Nat) : State :=
  let g := poolGet S cfg s p
  enqueueOut (if isAsk then enqueueOut g.1 g.2 { ref := .asking, bytes := S.asking } else g.1) g.2
    { ref := .frag mi slot, bytes := fragReq S s (.frag mi slot) }

theorem onMoved_eq (S : Strs) (cfg : Cfg) (s : State) (mi slot : Nat) (isAsk : Bool) (addr : Bytes) (r : Req)
    (hr : s.msgs[mi]? = some r) :
    onMoved S cfg s mi slot isAsk addr =
      if ((getFrag r.m slot).map (·.redirects)).getD 0 + 1 > S.maxRedirects then
        failOne (bumpRed s mi slot) mi slot S.errTooManyRedirects r.owner
      else match findPool s.pools addr with
        | none => failOne (bumpRed s mi slot) mi slot S.errUnknownPool r.owner
        | some p => resendTo S cfg (bumpRed s mi slot) mi slot isAsk p := by
  unfold onMoved
  rw [show s.req mi = some r from hr]
  rfl

theorem onMoved_cases {P : State → Prop} (S : Strs) (cfg : Cfg) (s : State) (mi slot : Nat) (isAsk : Bool) (addr : Bytes)
    (panic : s.msgs[mi]? = none → P (s.fail "panic"))
    (failed : ∀ r e, s.msgs[mi]? = some r → P (failOne (bumpRed s mi slot) mi slot e r.owner))
    (resent : ∀ r p, s.msgs[mi]? = some r → findPool s.pools addr = some p →
      ((getFrag r.m slot).map (·.redirects)).getD 0 + 1 ≤ S.maxRedirects → P (resendTo S cfg (bumpRed s mi slot) mi slot isAsk p)) :
    P (onMoved S cfg s mi slot isAsk addr) := by
  cases hr : s.msgs[mi]? with
  | none =>
    unfold onMoved
    rw [show s.req mi = none from hr]
    exact panic hr
  | some r =>
    rw [onMoved_eq S cfg s mi slot isAsk addr r hr]
    split
    · exact failed r _ hr
    · rename_i hb
      split
      · exact failed r _ hr
      · rename_i p hp; exact resent r p hr hp (Nat.le_of_not_gt hb)

theorem msgs_bumpRed (s : State) (mi slot : Nat) (r : Req) (hr : s.msgs[mi]? = some r) :
    (bumpRed s mi slot).msgs[mi]? =
      some { r with m := setFrag r.m slot (fun f => { f with redirects := f.redirects + 1 }) } :=
  msgs_upd_same s mi _ r hr

/-- the fragment is queued again in the state `Pool.Get` leaves or, for ASK, in that state with ASKING queued: in a
    state `st` related to the former by any reflexive `R` that holds across the queueing of ASKING -/
theorem resendTo_cases {P : State → Prop} {R : State → State → Prop} (S : Strs) (cfg : Cfg) (s : State) (mi slot : Nat)
    (isAsk : Bool) (p : Nat) (refl : ∀ s, R s s) (hask : ∀ st b, R st (enqueueOut st b { ref := .asking, bytes := S.asking }))
    (h : ∀ st, R (poolGet S cfg s p).1 st →
      P (enqueueOut st (poolGet S cfg s p).2 { ref := .frag mi slot, bytes := fragReq S s (.frag mi slot) })) :
    P (resendTo S cfg s mi slot isAsk p) :=
  h _ (iteInduction (motive := R (poolGet S cfg s p).1) (fun _ => hask _ _) fun _ => refl _)

theorem resendTo_rel {R : State → State → Prop} (S : Strs) (cfg : Cfg) (s : State) (mi slot : Nat) (isAsk : Bool) (p : Nat)
    (trans : ∀ {a b c}, R a b → R b c → R a c) (hget : R s (poolGet S cfg s p).1)
    (henq : ∀ st b e, e.direct = none → R st (enqueueOut st b e)) : R s (resendTo S cfg s mi slot isAsk p) :=
  resendTo_cases (R := fun a b => R s a → R s b) S cfg s mi slot isAsk p (fun _ => id)
    (fun st b h => trans h (henq st b _ rfl)) fun st hst => trans (hst hget) (henq st _ _ rfl)

theorem same_resendTo (S : Strs) (cfg : Cfg) (s : State) (mi slot : Nat) (isAsk : Bool) (p : Nat) :
    SameCM s (resendTo S cfg s mi slot isAsk p) :=
  resendTo_rel S cfg s mi slot isAsk p SameCM.trans (same_poolGet S cfg s p) fun st b e _ => same_enqueueOut st b e

theorem cs_failOne (s : State) (mi slot : Nat) (e : Bytes) (owner : Nat) : ClientSide s (failOne s mi slot e owner) :=
  (cs_updReq s _ _).trans (cs_flushClient _ _)

theorem cs_dropTimeouts (refs : List FragRef) (s : State) : ClientSide s (refs.foldl dropTimeout s) :=
  foldl_rel ClientSide.refl ClientSide.trans cs_dropTimeout refs s

theorem backendClose_open (S : Strs) (s : State) (b : Nat) (x : Backend) (hx : s.backends[b]? = some x)
    (ho : x.opened = true) :
    backendClose S s b =
      (x.inQ.foldl dropTimeout ((x.inQ ++ x.outQ.map (·.ref)).foldl (failStep (lostMsg S)) s)).updBackend b
        (fun x => { x with opened := false, inQ := [], outQ := [], leftover := [] }) := by
  unfold backendClose
  rw [show s.backend b = some x from hx]
  simp [ho, failFrags_eq]

theorem cs_closeScan (S : Strs) (s : State) (l refs : List FragRef) :
    ClientSide s (refs.foldl dropTimeout (l.foldl (failStep (lostMsg S)) s)) :=
  (foldl_rel ClientSide.refl ClientSide.trans (cs_failStep (lostMsg S)) l s).trans (cs_dropTimeouts refs _)

theorem backendClose_cases {P : State → Prop} (S : Strs) (s : State) (b : Nat) (idle : P s)
    (closed : ∀ x, s.backends[b]? = some x → x.opened = true →
      P ((x.inQ.foldl dropTimeout ((x.inQ ++ x.outQ.map (·.ref)).foldl (failStep (lostMsg S)) s)).updBackend b
        (fun x => { x with opened := false, inQ := [], outQ := [], leftover := [] }))) : P (backendClose S s b) := by
  cases hx : s.backends[b]? with
  | none => unfold backendClose; rw [show s.backend b = none from hx]; exact idle
  | some x =>
    cases ho : x.opened with
    | false => unfold backendClose; rw [show s.backend b = some x from hx]; simp only [ho]; exact idle
    | true => rw [backendClose_open S s b x hx ho]; exact closed x hx ho

theorem flag_backendClose (S : Strs) (s : State) (b : Nat) : (backendClose S s b).flag = s.flag :=
  backendClose_cases (P := fun s' => s'.flag = s.flag) S s b rfl fun _ _ _ => (cs_closeScan S s _ _).flag

/-! ### a request, a framed reply -/

section
variable (T : Tables) (S : Strs) (cfg : Cfg) (slotFn : Bytes → Nat)

theorem onRequest_cases {P : State → Prop} (s : State) (c : Nat) (cm : CDecode.CMsg) (ch : ReqChoice)
    (answered : ∀ out, P (answerLocal s c (ofCMsg cm) out)) (forwarded : P (forward T S cfg s c cm ch)) :
    P (onRequest T S cfg s c cm ch).1 := by
  unfold onRequest
  split
  · exact answered _
  · exact forwarded

/-- one hypothesis per outcome of a framed reply for fragment `(mi, slot)`; `m'` and `sig` are what the merge
    (`conn.sread`) makes of request `r` and signals -/
theorem onFragReply_cases {P : State → Prop} (s : State) (mi slot rtype : Nat) (body : Bytes) (panic : P (s.fail "panic"))
    (failed : ∀ r m' sig w, s.msgs[mi]? = some r → onReply T S.merge slotFn cfg.limit r.m slot rtype body = (m', sig) →
      P ((s.updReq mi fun r => { r with m := m' }).fail w))
    (merged : ∀ r m' sig, s.msgs[mi]? = some r → onReply T S.merge slotFn cfg.limit r.m slot rtype body = (m', sig) →
      sig = .dropped ∨ sig = .waiting → P (s.updReq mi fun r => { r with m := m' }))
    (moved : ∀ r m', s.msgs[mi]? = some r → onReply T S.merge slotFn cfg.limit r.m slot rtype body = (m', .redirect) →
      P (onMoved S cfg (s.updReq mi fun r => { r with m := m' }) mi slot (rtype = T.rAsk) (SDecode.parseMovedOrAsk T rtype body)))
    (ready : ∀ r m', s.msgs[mi]? = some r → onReply T S.merge slotFn cfg.limit r.m slot rtype body = (m', .ready) →
      P (deliver (s.updReq mi fun r => { r with m := m' }) r.owner)) :
    P (onFragReply T S cfg slotFn s mi slot rtype body).1 := by
  unfold onFragReply State.req
  cases hr : s.msgs[mi]? with
  | none => exact panic
  | some r =>
    dsimp only
    generalize hres : onReply T S.merge slotFn cfg.limit r.m slot rtype body = res
    obtain ⟨m', sig⟩ := res
    cases sig with
    | panic => exact failed r m' _ _ hr hres
    | dropped => exact merged r m' _ hr hres (.inl rfl)
    | waiting => exact merged r m' _ hr hres (.inr rfl)
    | redirect => exact moved r m' hr hres
    | ready =>
      dsimp only
      split
      · exact failed r m' _ _ hr hres
      · exact ready r m' hr hres

end

end RcVerif.Sim
