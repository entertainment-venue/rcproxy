import RcVerif.Model.Resp
/-
  Decimal lemmas: `itoa` produces the canonical decimal of a number and
  `parseLen` accepts exactly the canonical decimals of at most 18 digits.
-/
namespace RcVerif.Lemmas.Decimal
open RcVerif RcVerif.Resp

theorem digit_toNat (n : Nat) : (digit n).toNat = 48 + n % 10 := by
  unfold digit
  rw [UInt8.toNat_ofNat']
  exact Nat.mod_eq_of_lt (Nat.lt_of_lt_of_le (Nat.add_lt_add_left (Nat.mod_lt n (by decide)) 48) (by decide))

theorem isDigit_iff (b : UInt8) : isDigit b = true ↔ 48 ≤ b.toNat ∧ b.toNat ≤ 57 := by
  simp [isDigit, UInt8.le_iff_toNat_le]

theorem digit_isDigit (n : Nat) : isDigit (digit n) = true := by
  rw [isDigit_iff, digit_toNat]; omega

theorem digit_ne_lf (n : Nat) : digit n ≠ 10 :=
  fun h => absurd (h ▸ digit_isDigit n) (by decide)

theorem isDigit_sub_lt (d : UInt8) (hd : isDigit d = true) : d.toNat - 48 < 10 := by
  rw [isDigit_iff] at hd; omega

/-- `digit` looks at the last decimal place only, and is the inverse of "minus '0'" on digits -/
theorem digit_add (m : Nat) (d : UInt8) (hd : isDigit d = true) : digit (m * 10 + (d.toNat - 48)) = d := by
  apply UInt8.toNat_inj.mp
  rw [digit_toNat, Nat.mul_add_mod', Nat.mod_eq_of_lt (isDigit_sub_lt d hd),
    Nat.add_sub_cancel' ((isDigit_iff d).mp hd).1]

theorem digit_of_isDigit (d : UInt8) (hd : isDigit d = true) : digit (d.toNat - 48) = d := by
  have := digit_add 0 d hd
  rwa [Nat.zero_mul, Nat.zero_add] at this

theorem div10_lt {n : Nat} (h : 10 ≤ n) : n / 10 < n :=
  Nat.div_lt_self (Nat.lt_of_lt_of_le (by decide) h) (by decide)

theorem itoaFuel_eq (f g n : Nat) (hf : n < f) (hg : n < g) : itoaFuel f n = itoaFuel g n := by
  induction f generalizing g n with
  | zero => omega
  | succ f ih =>
    cases g with
    | zero => omega
    | succ g =>
      unfold itoaFuel
      split
      · rfl
      · rename_i h
        have hlt := div10_lt (Nat.le_of_not_lt h)
        rw [ih g (n / 10) (Nat.lt_of_lt_of_le hlt (Nat.le_of_lt_succ hf)) (Nat.lt_of_lt_of_le hlt (Nat.le_of_lt_succ hg))]

theorem itoa_lt10 (n : Nat) (h : n < 10) : itoa n = [digit n] := by
  unfold itoa itoaFuel; rw [if_pos h]

theorem itoa_ge10 (n : Nat) (h : 10 ≤ n) : itoa n = itoa (n / 10) ++ [digit n] := by
  unfold itoa
  conv => lhs; unfold itoaFuel
  rw [if_neg (Nat.not_lt.mpr h), itoaFuel_eq n (n / 10 + 1) (n / 10) (div10_lt h) (Nat.lt_succ_self _)]

/-- induction along the decimal places of a number -/
theorem itoa_ind {P : Nat → Prop} (lt : ∀ n, n < 10 → P n) (ge : ∀ n, 10 ≤ n → P (n / 10) → P n)
    (n : Nat) : P n := by
  induction n using Nat.strongRecOn with
  | _ n ih =>
    by_cases h : n < 10
    · exact lt n h
    · exact ge n (Nat.le_of_not_lt h) (ih _ (div10_lt (Nat.le_of_not_lt h)))

theorem itoa_digits (n : Nat) : ∀ b ∈ itoa n, isDigit b = true := by
  induction n using itoa_ind with
  | lt n h =>
    rw [itoa_lt10 n h]
    exact List.forall_mem_singleton.mpr (digit_isDigit n)
  | ge n h ih =>
    rw [itoa_ge10 n h]
    exact List.forall_mem_append.mpr ⟨ih, List.forall_mem_singleton.mpr (digit_isDigit n)⟩

theorem itoa_ne_nil (n : Nat) : itoa n ≠ [] := by
  by_cases h : n < 10
  · rw [itoa_lt10 n h]; exact List.cons_ne_nil _ _
  · rw [itoa_ge10 n (Nat.le_of_not_lt h)]; exact List.append_ne_nil_of_right_ne_nil _ (List.cons_ne_nil _ _)

/-- a number has at most `k + 1` decimal places exactly when it is below `10 ^ (k + 1)` -/
theorem itoa_length_le_iff (n k : Nat) : (itoa n).length ≤ k + 1 ↔ n < 10 ^ (k + 1) := by
  induction n using itoa_ind generalizing k with
  | lt n h =>
    rw [itoa_lt10 n h]
    exact ⟨fun _ => Nat.lt_of_lt_of_le h (Nat.pow_le_pow_right (n := 10) (by decide) (Nat.le_add_left 1 k)),
      fun _ => Nat.le_add_left 1 k⟩
  | ge n h ih =>
    rw [itoa_ge10 n h, List.length_append, List.length_singleton, Nat.add_le_add_iff_right]
    cases k with
    | zero =>
      exact ⟨fun hl => absurd (List.length_eq_zero_iff.mp (Nat.le_zero.mp hl)) (itoa_ne_nil _),
        fun hn => absurd hn (Nat.not_lt.mpr h)⟩
    | succ k => rw [ih k, Nat.pow_succ 10 (k + 1), Nat.div_lt_iff_lt_mul (by decide)]

theorem head_itoa_ne_zero (n : Nat) (h : 0 < n) : ∃ d ds, itoa n = d :: ds ∧ d ≠ 48 := by
  induction n using itoa_ind with
  | lt n h10 =>
    refine ⟨digit n, [], itoa_lt10 n h10, fun hc => ?_⟩
    have : 48 + n % 10 = 48 := (digit_toNat n).symm.trans (congrArg UInt8.toNat hc)
    rw [Nat.mod_eq_of_lt h10] at this
    exact Nat.ne_of_gt h (Nat.add_left_cancel this)
  | ge n h10 ih =>
    obtain ⟨d, ds, he, hd⟩ := ih (Nat.div_pos h10 (by decide))
    exact ⟨d, ds ++ [digit n], by rw [itoa_ge10 n h10, he]; rfl, hd⟩

theorem parseDigits_append (acc : Nat) (xs : Bytes) (d : UInt8) (hd : isDigit d = true) :
    parseDigits acc (xs ++ [d]) = (parseDigits acc xs).map (fun v => v * 10 + (d.toNat - 48)) := by
  induction xs generalizing acc with
  | nil => simp [parseDigits, hd]
  | cons x xs ih =>
    simp only [List.cons_append, parseDigits]
    split
    · exact ih _
    · rfl

theorem parseDigits_itoa (n : Nat) : parseDigits 0 (itoa n) = some n := by
  have hd : ∀ n, (digit n).toNat - 48 = n % 10 := fun n => by rw [digit_toNat, Nat.add_sub_cancel_left]
  induction n using itoa_ind with
  | lt n h =>
    rw [itoa_lt10 n h]
    simp only [parseDigits, digit_isDigit, ↓reduceIte, hd]
    rw [Nat.zero_mul, Nat.zero_add, Nat.mod_eq_of_lt h]
  | ge n h ih =>
    rw [itoa_ge10 n h, parseDigits_append _ _ _ (digit_isDigit n), ih, Option.map_some, hd]
    exact congrArg some (Nat.div_add_mod' n 10)

/-- reading further digits on from a value appends them to its decimal, unless that value is zero -/
theorem itoa_parseDigits (acc : Nat) (xs : Bytes) (r : Nat) (hacc : xs ≠ [] → 0 < acc)
    (h : parseDigits acc xs = some r) : itoa r = itoa acc ++ xs := by
  induction xs generalizing acc with
  | nil =>
    rw [parseDigits, Option.some.injEq] at h
    rw [h, List.append_nil]
  | cons x xs ih =>
    rw [parseDigits] at h
    split at h
    · rename_i hx
      have h10 : 10 ≤ acc * 10 + (x.toNat - 48) :=
        Nat.le_trans (Nat.mul_le_mul_right 10 (hacc (List.cons_ne_nil _ _))) (Nat.le_add_right _ _)
      have hdiv : (acc * 10 + (x.toNat - 48)) / 10 = acc := by
        rw [Nat.add_comm, Nat.add_mul_div_right _ _ (by decide), Nat.div_eq_of_lt (isDigit_sub_lt x hx),
          Nat.zero_add]
      rw [ih _ (fun _ => Nat.lt_of_lt_of_le (by decide) h10) h, itoa_ge10 _ h10, hdiv, digit_add acc x hx,
        List.append_assoc]
      rfl
    · exact absurd h (by simp)

/-- a canonical decimal (digits only, no leading zero unless it is "0") is the `itoa` of its value -/
theorem canon_unique (b : UInt8) (bs : Bytes) (n : Nat) (hb0 : bs ≠ [] → b ≠ 48)
    (h : parseDigits 0 (b :: bs) = some n) : b :: bs = itoa n := by
  rw [parseDigits] at h
  split at h
  · rename_i hb
    rw [Nat.zero_mul, Nat.zero_add] at h
    have hpos : bs ≠ [] → 0 < b.toNat - 48 := fun hne =>
      Nat.sub_pos_of_lt (Nat.lt_of_le_of_ne ((isDigit_iff b).mp hb).1
        fun e => hb0 hne (UInt8.toNat_inj.mp e.symm))
    rw [itoa_parseDigits _ bs n hpos h, itoa_lt10 _ (isDigit_sub_lt b hb), digit_of_isDigit b hb]
    rfl
  · exact absurd h (by simp)

theorem parseLen_cons (b : UInt8) (bs : Bytes) (h : b :: bs ≠ [45, 49]) :
    parseLen (b :: bs) =
      if (b = 48 ∧ bs ≠ []) ∨ (b :: bs).length > 18 then .error .invalid
      else match parseDigits 0 (b :: bs) with
        | none => .error .invalid
        | some n => .ok (Int.ofNat n) := by
  unfold parseLen
  split
  · rename_i heq; cases heq
  · rename_i heq; exact absurd heq h
  · rename_i heq; cases heq; rfl

theorem ofNat_not_neg (n : Nat) : ¬ Int.ofNat n < 0 := Int.not_lt.mpr (Int.natCast_nonneg n)

theorem parseLen_itoa (n : Nat) (h : n < 10 ^ 18) : parseLen (itoa n) = .ok (Int.ofNat n) := by
  have hlen := (itoa_length_le_iff n 17).mpr h
  have hpd := parseDigits_itoa n
  by_cases h0 : n = 0
  · subst h0; rfl
  · obtain ⟨d, ds, he, hd⟩ := head_itoa_ne_zero n (Nat.pos_of_ne_zero h0)
    rw [he] at hlen hpd ⊢
    have hdig : isDigit d = true := itoa_digits n d (by rw [he]; simp)
    rw [parseLen_cons d ds fun e => absurd ((List.cons.inj e).1 ▸ hdig) (by decide),
      if_neg fun hc => hc.elim (fun h1 => hd h1.1) (Nat.not_lt.mpr hlen), hpd]

/-- what `parseLen` makes of a byte string: an error, the literal "-1", or the number whose canonical decimal it is -/
theorem parseLen_cases (p : Bytes) :
    (∃ e, parseLen p = .error e) ∨ parseLen p = .ok (-1) ∨
    ∃ n, parseLen p = .ok (Int.ofNat n) ∧ n < 10 ^ 18 ∧ p = itoa n := by
  by_cases hm : p = [45, 49]
  · exact .inr (.inl (hm ▸ rfl))
  rcases p with _ | ⟨b, bs⟩
  · exact .inl ⟨_, rfl⟩
  rw [parseLen_cons b bs hm]
  by_cases hcond : (b = 48 ∧ bs ≠ []) ∨ (b :: bs).length > 18
  · exact .inl ⟨_, if_pos hcond⟩
  rw [if_neg hcond]
  cases hpd : parseDigits 0 (b :: bs) with
  | none => exact .inl ⟨_, rfl⟩
  | some n =>
    have hp : b :: bs = itoa n := canon_unique b bs n (fun hne e => hcond (Or.inl ⟨e, hne⟩)) hpd
    refine .inr (.inr ⟨n, rfl, (itoa_length_le_iff n 17).mp ?_, hp⟩)
    rw [← hp]
    exact Nat.le_of_not_gt fun hc => hcond (Or.inr hc)

end RcVerif.Lemmas.Decimal
