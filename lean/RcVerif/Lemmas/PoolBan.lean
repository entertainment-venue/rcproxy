import RcVerif.Model.PoolBan
/-
  Lemmas for the pool / ban model (`Model/PoolBan.lean`): what each operation does (one specification per
  operation; `GetSpec` / `get_spec` for `Pool.Get`), the order `Le` in which every operation moves the state, and the
  invariant `Inv`; both are kept by every operation, which is said once as `Safe` (`safe_step`, `safe_run`).
  Property statements live in `Props/PoolHist.lean`.
-/
namespace RcVerif.PoolBan

/-! ### connection lists: what the operations may change -/

/-- `cs'` is `cs` where some connections were closed (same length, same owner and role, never re-opened),
    possibly followed by newly dialled ones -/
def Ext (cs cs' : List Conn) : Prop :=
  cs.length ≤ cs'.length ∧
  ∀ (i : Nat) (x : Conn), cs[i]? = some x → ∃ y : Conn, cs'[i]? = some y ∧ y.pool = x.pool ∧ y.slave = x.slave ∧ (y.opened = true → x.opened = true)

theorem Ext.refl (cs : List Conn) : Ext cs cs :=
  ⟨Nat.le_refl _, fun _ x h => ⟨x, h, rfl, rfl, id⟩⟩

theorem Ext.trans {a b c : List Conn} (h1 : Ext a b) (h2 : Ext b c) : Ext a c := by
  refine ⟨Nat.le_trans h1.1 h2.1, fun i x hx => ?_⟩
  obtain ⟨y, hy, p1, s1, o1⟩ := h1.2 i x hx
  obtain ⟨z, hz, p2, s2, o2⟩ := h2.2 i y hy
  exact ⟨z, hz, p2.trans p1, s2.trans s1, fun h => o1 (o2 h)⟩

theorem lt_of_getElem? {α : Type} {l : List α} {i : Nat} {x : α} (h : l[i]? = some x) : i < l.length :=
  (List.getElem?_eq_some_iff.mp h).1

theorem ext_append (cs : List Conn) (x : Conn) : Ext cs (cs ++ [x]) := by
  refine ⟨by simp, fun i y hy => ⟨y, ?_, rfl, rfl, id⟩⟩
  rw [List.getElem?_append_left (lt_of_getElem? hy)]; exact hy

theorem ext_modify (cs : List Conn) (c : Nat) (f : Conn → Conn)
    (hf : ∀ x, (f x).pool = x.pool ∧ (f x).slave = x.slave ∧ ((f x).opened = true → x.opened = true)) :
    Ext cs (cs.modify c f) := by
  refine ⟨by simp, fun i x hx => ?_⟩
  rw [List.getElem?_modify, hx]
  by_cases h : c = i
  · exact ⟨f x, by simp [h], hf x⟩
  · exact ⟨x, by simp [h], rfl, rfl, id⟩

theorem ext_close (cs : List Conn) (c : Nat) : Ext cs (cs.modify c (fun x => { x with opened := false })) :=
  ext_modify cs c _ (fun _ => ⟨rfl, rfl, fun h => Bool.noConfusion h⟩)

theorem ext_closeConns (ids : List Nat) (cs : List Conn) : Ext cs (closeConns cs ids) :=
  List.foldlRecOn ids _ (motive := Ext cs) (Ext.refl cs) (fun t h id _ => h.trans (ext_close t id))

theorem closed_stays_closed {cs cs' : List Conn} (h : Ext cs cs') {i : Nat} (hi : i < cs.length)
    (hc : isOpen cs i = false) : isOpen cs' i = false := by
  obtain ⟨y, hy, _, _, o⟩ := h.2 i cs[i] (List.getElem?_eq_getElem hi)
  simp only [isOpen, hy, List.getElem?_eq_getElem hi] at hc ⊢
  cases ho : y.opened
  · rfl
  · rw [o ho] at hc; cases hc

theorem isOpen_modify_self (cs : List Conn) (c : Nat) :
    isOpen (cs.modify c (fun x => { x with opened := false })) c = false := by
  simp only [isOpen, List.getElem?_modify]
  cases cs[c]? <;> simp

theorem isOpen_new (cs : List Conn) (x : Conn) : isOpen (cs ++ [x]) cs.length = x.opened := by
  unfold isOpen; rw [List.getElem?_concat_length]

theorem closeConns_closes (ids : List Nat) : ∀ (cs : List Conn) (c : Nat), c ∈ ids → c < cs.length →
    isOpen (closeConns cs ids) c = false := by
  induction ids with
  | nil => intro cs c h; cases h
  | cons id rest ih =>
    intro cs c hc hl
    rcases List.mem_cons.mp hc with h | h
    · subst h
      exact closed_stays_closed (ext_closeConns rest _) (by simpa using hl) (isOpen_modify_self cs c)
    · exact ih _ c h (by simpa using hl)

/-! ### the rotation loop: the dead connections in front are dropped, the first open one is taken -/

theorem rotateRev_cons (cs : List Conn) (c : Nat) (l : List Nat) :
    rotateRev cs (c :: l) = if isOpen cs c then some (c, l) else rotateRev cs l := rfl

theorem rotateRev_skip {cs : List Conn} {dead : List Nat} (hd : ∀ c ∈ dead, isOpen cs c = false) (l : List Nat) :
    rotateRev cs (dead ++ l) = rotateRev cs l := by
  induction dead with
  | nil => rfl
  | cons a t ih =>
    have h := List.forall_mem_cons.mp hd
    rw [List.cons_append, rotateRev_cons, h.1, ih h.2]; rfl

/-- the loop reads the list from the back: dead connections there do not matter -/
theorem rotateRev_reverse {cs : List Conn} {dead : List Nat} (hd : ∀ d ∈ dead, isOpen cs d = false) (l : List Nat) :
    rotateRev cs (l ++ dead).reverse = rotateRev cs l.reverse := by
  rw [List.reverse_append]; exact rotateRev_skip (fun c h => hd c (List.mem_reverse.mp h)) _

theorem last_open (cs : List Conn) (l : List Nat) :
    (∀ c ∈ l, isOpen cs c = false) ∨
    ∃ front c dead, l = front ++ c :: dead ∧ isOpen cs c = true ∧ ∀ d ∈ dead, isOpen cs d = false := by
  induction l with
  | nil => exact Or.inl (fun _ h => nomatch h)
  | cons a t ih =>
    rcases ih with hd | ⟨front, c, dead, rfl, ho, hd⟩
    · cases ho : isOpen cs a
      · exact Or.inl (List.forall_mem_cons.mpr ⟨ho, hd⟩)
      · exact Or.inr ⟨[], a, t, rfl, ho, hd⟩
    · exact Or.inr ⟨a :: front, c, dead, rfl, ho, hd⟩

/-! ### single pools -/

theorem getElem?_set_pool {s : St} {p : Nat} {pl : Pool} (hp : s.pools[p]? = some pl) (pl' : Pool) (q : Nat) :
    (s.pools.set p pl')[q]? = if p = q then some pl' else s.pools[q]? := by
  rw [List.getElem?_set, if_pos (lt_of_getElem? hp)]

theorem getElem?_set_pool_self {s : St} {p : Nat} {pl : Pool} (hp : s.pools[p]? = some pl) (pl' : Pool) :
    (s.pools.set p pl')[p]? = some pl' :=
  List.getElem?_set_self (lt_of_getElem? hp)

theorem updPool_conns (s : St) (p : Nat) (f : Pool → Pool) : (updPool s p f).conns = s.conns := by
  unfold updPool; cases s.pools[p]? <;> rfl

theorem updPool_none {s : St} {p : Nat} (f : Pool → Pool) (hp : s.pools[p]? = none) : updPool s p f = s := by
  unfold updPool; rw [hp]

theorem updPool_eq {s : St} {p : Nat} {pl : Pool} (f : Pool → Pool) (hp : s.pools[p]? = some pl) :
    updPool s p f = { pools := s.pools.set p (f pl), conns := s.conns } := by
  unfold updPool; rw [hp]; rfl

theorem setDial_eq (s : St) (p : Nat) (ok : Bool) : setDial s p ok = updPool s p (fun pl => { pl with dialOk := ok }) := rfl

theorem expire_eq (s : St) (p : Nat) : expire s p = updPool s p (fun pl => { pl with banPassed := true }) := rfl

/-! ### the other operations on a pool -/

theorem release_none {s : St} {p : Nat} (hp : s.pools[p]? = none) : release s p = s := by
  unfold release; rw [hp]

theorem release_eq {s : St} {p : Nat} {pl : Pool} (hp : s.pools[p]? = some pl) :
    release s p = if pl.closed then s
      else { pools := s.pools.set p { pl with active := [] }, conns := closeConns s.conns pl.active } := by
  unfold release; rw [hp]

theorem close_none {s : St} {p : Nat} (hp : s.pools[p]? = none) : close s p = s := by
  unfold close; rw [hp]

theorem close_eq {s : St} {p : Nat} {pl : Pool} (hp : s.pools[p]? = some pl) :
    close s p = if pl.closed then s
      else { pools := s.pools.set p { pl with active := [], closed := true }, conns := closeConns s.conns pl.active } := by
  unfold close; rw [hp]
  refine ite_congr rfl (fun _ => rfl) fun hc => ?_
  simp only [release_eq hp, if_neg hc, getElem?_set_pool_self hp, setPool, List.set_set]

theorem setIsSlave_none {s : St} {p : Nat} (hp : s.pools[p]? = none) (b : Bool) : setIsSlave s p b = s := by
  unfold setIsSlave; rw [hp]

theorem setIsSlave_eq {s : St} {p : Nat} {pl : Pool} (hp : s.pools[p]? = some pl) (b : Bool) :
    setIsSlave s p b = if pl.isSlave = b then s
      else if pl.closed then setPool s p { pl with isSlave := b }
      else { pools := s.pools.set p { pl with isSlave := b, active := [] }, conns := closeConns s.conns pl.active } := by
  unfold setIsSlave; rw [hp]
  refine ite_congr rfl (fun _ => rfl) fun _ => ?_
  rw [release_eq (pl := { pl with isSlave := b }) (getElem?_set_pool_self hp _)]
  simp only [setPool, List.set_set]

/-! ### what `Get` does -/

theorem dial_ok {s : St} {p : Nat} {pl : Pool} (hd : pl.dialOk = true) :
    dial s p pl = ({ pools := s.pools.set p { pl with active := s.conns.length :: pl.active },
                     conns := s.conns ++ [{ pool := p, opened := true, slave := pl.isSlave }] }, some s.conns.length) := by
  unfold dial; rw [if_pos hd]

theorem dial_fail {s : St} {p : Nat} {pl : Pool} (hd : pl.dialOk = false) : dial s p pl = (setPool s p pl, none) := by
  unfold dial; rw [if_neg (ne_true_of_eq_false hd)]

/-- `Get` has to dial: there is room, or the list is full of dead connections -/
def NeedsDial (s : St) (pl : Pool) : Prop :=
  pl.active.length < pl.maxActive ∨ ∀ c ∈ pl.active, isOpen s.conns c = false

/-- what `Get` keeps of the pooled connections when it dials: all of them while there is room, none of a full
    list (its connections were popped one by one and found dead) -/
def kept (pl : Pool) : List Nat := if pl.active.length < pl.maxActive then pl.active else []

theorem kept_sub (pl : Pool) : (∀ c ∈ kept pl, c ∈ pl.active) ∧ (kept pl).length ≤ pl.active.length := by
  unfold kept; split
  · exact ⟨fun _ h => h, Nat.le_refl _⟩
  · exact ⟨fun _ h => (nomatch h), Nat.zero_le _⟩

theorem kept_room (pl : Pool) : (kept pl).length + 1 ≤ max pl.maxActive 1 := by
  unfold kept; split
  · next h => exact Nat.le_trans h (Nat.le_max_left _ _)
  · exact Nat.le_max_right _ _

theorem get_none {s : St} {p : Nat} (hp : s.pools[p]? = none) : get s p = (s, none) := by
  unfold get; rw [hp]

theorem get_closed {s : St} {p : Nat} {pl : Pool} (hp : s.pools[p]? = some pl) (hc : pl.closed = true) :
    get s p = (s, none) := by
  unfold get; rw [hp]; dsimp only; rw [if_pos hc]

theorem get_redial {s : St} {p : Nat} {pl : Pool} (hp : s.pools[p]? = some pl) (hcl : pl.closed = false)
    (hk : NeedsDial s pl) : get s p = dial s p { pl with active := kept pl } := by
  unfold get kept; rw [hp]; dsimp only; rw [if_neg (ne_true_of_eq_false hcl)]
  split
  · rfl
  · next hfull =>
    have hn : rotateRev s.conns pl.active.reverse = none := rotateRev_reverse (hk.resolve_left hfull) []
    rw [hn]

/-- the list is full: the dead connections at its back are dropped, the open one before them moves to the front -/
theorem get_reuse {s : St} {p : Nat} {pl : Pool} (hp : s.pools[p]? = some pl) (hcl : pl.closed = false)
    (hfull : ¬ pl.active.length < pl.maxActive) {front : List Nat} {c : Nat} {dead : List Nat}
    (ha : pl.active = front ++ c :: dead) (ho : isOpen s.conns c = true)
    (hd : ∀ d ∈ dead, isOpen s.conns d = false) :
    get s p = (setPool s p { pl with active := c :: front }, some c) := by
  have hr : rotateRev s.conns pl.active.reverse = some (c, front.reverse) := by
    rw [ha, List.append_cons, rotateRev_reverse hd, List.reverse_concat, rotateRev_cons, if_pos ho]
  unfold get; rw [hp]; dsimp only; rw [if_neg (ne_true_of_eq_false hcl), if_neg hfull, hr]
  simp only [List.reverse_reverse]

/-- **the specification of `Pool.Get`**: the four ways it ends, each with the state and the connection it
    returns. The side conditions exclude one another, so this is also when each of them happens. -/
inductive GetSpec (s : St) (p : Nat) : St × Option Nat → Prop
  /-- unknown or closed pool: nothing happens -/
  | refused (hc : ∀ pl, s.pools[p]? = some pl → pl.closed = true) : GetSpec s p (s, none)
  | reused (pl : Pool) (hp : s.pools[p]? = some pl) (hcl : pl.closed = false)
      (hfull : ¬ pl.active.length < pl.maxActive) (front : List Nat) (c : Nat) (dead : List Nat)
      (ha : pl.active = front ++ c :: dead) (ho : isOpen s.conns c = true)
      (hd : ∀ d ∈ dead, isOpen s.conns d = false) :
      GetSpec s p (setPool s p { pl with active := c :: front }, some c)
  | dialled (pl : Pool) (hp : s.pools[p]? = some pl) (hcl : pl.closed = false) (hk : NeedsDial s pl)
      (hd : pl.dialOk = true) :
      GetSpec s p ({ pools := s.pools.set p { pl with active := s.conns.length :: kept pl },
                     conns := s.conns ++ [{ pool := p, opened := true, slave := pl.isSlave }] }, some s.conns.length)
  | failed (pl : Pool) (hp : s.pools[p]? = some pl) (hcl : pl.closed = false) (hk : NeedsDial s pl)
      (hd : pl.dialOk = false) :
      GetSpec s p (setPool s p { pl with active := kept pl }, none)

theorem get_spec (s : St) (p : Nat) : GetSpec s p (get s p) := by
  cases hp : s.pools[p]? with
  | none => rw [get_none hp]; exact .refused (fun pl h => by rw [hp] at h; cases h)
  | some pl =>
    rcases Bool.eq_false_or_eq_true pl.closed with hcl | hcl
    · rw [get_closed hp hcl]; exact .refused (fun pl' h => by rw [hp] at h; cases h; exact hcl)
    have dials : NeedsDial s pl → GetSpec s p (get s p) := by
      intro hk
      rw [get_redial hp hcl hk]
      rcases Bool.eq_false_or_eq_true pl.dialOk with hd | hd
      · rw [dial_ok (pl := { pl with active := kept pl }) hd]; exact .dialled pl hp hcl hk hd
      · rw [dial_fail (pl := { pl with active := kept pl }) hd]; exact .failed pl hp hcl hk hd
    by_cases hlt : pl.active.length < pl.maxActive
    · exact dials (Or.inl hlt)
    rcases last_open s.conns pl.active with hd | ⟨front, c, dead, ha, ho, hd⟩
    · exact dials (Or.inr hd)
    · rw [get_reuse hp hcl hlt ha ho hd]; exact .reused pl hp hcl hlt front c dead ha ho hd

theorem get_out {s : St} {p : Nat} {s' : St} {r : Option Nat} (h : get s p = (s', r)) :
    (∀ c, r = some c → isOpen s'.conns c = true) ∧ (r = none → s'.conns = s.conns) := by
  have hs := get_spec s p
  rw [h] at hs
  cases hs with
  | refused _ => exact ⟨fun _ h => (nomatch h), fun _ => rfl⟩
  | reused pl hp hcl hfull front c dead ha ho hd => exact ⟨fun _ h => Option.some.inj h ▸ ho, fun h => nomatch h⟩
  | dialled pl hp hcl hk hd => exact ⟨fun _ h => Option.some.inj h ▸ isOpen_new _ _, fun h => nomatch h⟩
  | failed pl hp hcl hk hd => exact ⟨fun _ h => (nomatch h), fun _ => rfl⟩

theorem request_spec (s : St) (r : Bool) :
    ∃ t, (t = s ∨ t = (getConn s r).1 ∧ (getConn s r).2.1 = none) ∧
      request s r = ((getConn t r).1, match (getConn t r).2.1 with | some c => .fwd c | none => .err) := by
  unfold request
  split
  · next s1 c b h => exact ⟨s, Or.inl rfl, by rw [h]⟩
  · next s1 h =>
    refine ⟨s1, Or.inr (by rw [h]; exact ⟨rfl, rfl⟩), ?_⟩
    split
    · next s2 c b h2 => rw [h2]
    · next s2 b h2 => rw [h2]
  · next s1 h => exact ⟨s, Or.inl rfl, by rw [h]⟩

theorem deliver_spec (s : St) (c : Nat) : deliver s c = (s, true) ∨ deliver s c = (lose s c, false) := by
  unfold deliver
  split
  · split
    · exact Or.inr rfl
    · exact Or.inl rfl
  · exact Or.inl rfl

theorem serve_spec (s : St) (r : Bool) :
    (∃ c, (request s r).2 = .fwd c ∧
      (serve s r = ((request s r).1, .fwd c) ∨ serve s r = (lose (request s r).1 c, .lost c))) ∨
    ((request s r).2 = .err ∧ serve s r = ((request s r).1, .err)) := by
  unfold serve
  cases request s r with
  | mk s1 o =>
    cases o with
    | err => exact Or.inr ⟨rfl, rfl⟩
    | fwd c =>
      refine Or.inl ⟨c, rfl, ?_⟩
      dsimp only
      rcases deliver_spec s1 c with h | h <;> rw [h]
      · exact Or.inl rfl
      · exact Or.inr rfl

/-! ### the order in which every operation moves the state, and the invariant -/

/-- `s'` comes after `s`: connections were closed or added; every pool is still there, a closed one still closed -/
structure Le (s s' : St) : Prop where
  conns : Ext s.conns s'.conns
  pools : ∀ (p : Nat) (pl : Pool), s.pools[p]? = some pl →
    ∃ pl' : Pool, s'.pools[p]? = some pl' ∧ (pl.closed = true → pl'.closed = true)

/-- what holds of every pool in every reachable state -/
@[reducible] def PoolOK (s : St) (p : Nat) (pl : Pool) : Prop :=
  (∀ c ∈ pl.active, ∃ x, s.conns[c]? = some x ∧ x.pool = p ∧ x.slave = pl.isSlave) ∧
  pl.active.length ≤ max pl.maxActive 1 ∧ pl.order ≤ 5 ∧ (pl.closed = true → pl.active = [])

def Inv (s : St) : Prop := ∀ p pl, s.pools[p]? = some pl → PoolOK s p pl

def Safe (s s' : St) : Prop := Le s s' ∧ (Inv s → Inv s')

theorem Safe.refl (s : St) : Safe s s := ⟨⟨Ext.refl _, fun _ pl h => ⟨pl, h, id⟩⟩, id⟩

theorem Safe.trans {a b c : St} (h1 : Safe a b) (h2 : Safe b c) : Safe a c := by
  refine ⟨⟨h1.1.conns.trans h2.1.conns, fun p pl hp => ?_⟩, fun h => h2.2 (h1.2 h)⟩
  obtain ⟨pl1, hp1, c1⟩ := h1.1.pools p pl hp
  obtain ⟨pl2, hp2, c2⟩ := h2.1.pools p pl1 hp1
  exact ⟨pl2, hp2, fun h => c2 (c1 h)⟩

theorem poolOK_ext {s : St} {cs' : List Conn} {p : Nat} {pl : Pool} (h : PoolOK s p pl) (he : Ext s.conns cs')
    (pools' : List Pool) : PoolOK { pools := pools', conns := cs' } p pl := by
  refine ⟨fun c hc => ?_, h.2.1, h.2.2.1, h.2.2.2⟩
  obtain ⟨x, hx, hp, hs⟩ := h.1 c hc
  obtain ⟨y, hy, p1, s1, _⟩ := he.2 c x hx
  exact ⟨y, hy, p1.trans hp, s1.trans hs⟩

/-- the shape of every operation's effect: pool `p` is rewritten (not re-opened, fine in the new state),
    connections are closed or added -/
theorem safe_set {s : St} {p : Nat} {pl : Pool} (hp : s.pools[p]? = some pl) {cs' : List Conn}
    (he : Ext s.conns cs') {pl' : Pool} (hc : pl.closed = true → pl'.closed = true)
    (hok : PoolOK s p pl → PoolOK { pools := s.pools.set p pl', conns := cs' } p pl') :
    Safe s { pools := s.pools.set p pl', conns := cs' } := by
  refine ⟨⟨he, fun q ql hq => ?_⟩, fun hI q ql hq => ?_⟩
  · show ∃ x, (s.pools.set p pl')[q]? = some x ∧ _
    rw [getElem?_set_pool hp]
    by_cases h : p = q
    · subst h; rw [hp] at hq; cases hq; exact ⟨pl', if_pos rfl, hc⟩
    · rw [if_neg h]; exact ⟨ql, hq, id⟩
  · have hq' : (s.pools.set p pl')[q]? = some ql := hq
    rw [getElem?_set_pool hp] at hq'
    by_cases h : p = q
    · subst h; rw [if_pos rfl] at hq'; cases hq'; exact hok (hI p pl hp)
    · rw [if_neg h] at hq'; exact poolOK_ext (hI q ql hq') he _

theorem safe_conns (s : St) {cs' : List Conn} (he : Ext s.conns cs') : Safe s { s with conns := cs' } :=
  ⟨⟨he, fun _ pl h => ⟨pl, h, id⟩⟩, fun hI q ql hq => poolOK_ext (hI q ql hq) he _⟩

theorem poolOK_nil {s : St} {p : Nat} {pl : Pool} (ha : pl.active = []) (ho : pl.order ≤ 5) : PoolOK s p pl :=
  ⟨fun c hc => (by rw [ha] at hc; cases hc), (by rw [ha]; exact Nat.zero_le _), ho, fun _ => ha⟩

/-- an open pool keeps some of its connections -/
theorem poolOK_sub {s : St} {p : Nat} {pl : Pool} (h : PoolOK s p pl) (hcl : pl.closed = false) {a : List Nat}
    (hs : (∀ c ∈ a, c ∈ pl.active) ∧ a.length ≤ pl.active.length) : PoolOK s p { pl with active := a } :=
  ⟨fun c hc => h.1 c (hs.1 c hc), Nat.le_trans hs.2 h.2.1, h.2.2.1, fun hc => nomatch hcl.symm.trans hc⟩

/-- a change of the ban fields or of `dialOk` only -/
theorem safe_updPool (s : St) (p : Nat) (f : Pool → Pool)
    (hf : ∀ pl, (f pl).active = pl.active ∧ (f pl).maxActive = pl.maxActive ∧ (f pl).isSlave = pl.isSlave ∧
      (f pl).closed = pl.closed ∧ (pl.order ≤ 5 → (f pl).order ≤ 5)) : Safe s (updPool s p f) := by
  cases hp : s.pools[p]? with
  | none => rw [updPool_none f hp]; exact Safe.refl s
  | some pl =>
    obtain ⟨ha, hm, hs, hc, ho⟩ := hf pl
    rw [updPool_eq f hp]
    refine safe_set hp (Ext.refl _) (by rw [hc]; exact id) (fun hok => ?_)
    exact ⟨(by rw [ha, hs]; exact hok.1), (by rw [ha, hm]; exact hok.2.1), ho hok.2.2.1, (by rw [ha, hc]; exact hok.2.2.2)⟩

theorem safe_release (s : St) (p : Nat) : Safe s (release s p) := by
  cases hp : s.pools[p]? with
  | none => rw [release_none hp]; exact Safe.refl s
  | some pl =>
    rw [release_eq hp]
    exact iteInduction (fun _ => Safe.refl s) fun _ => safe_set hp (ext_closeConns _ _) id (fun h => poolOK_nil rfl h.2.2.1)

theorem safe_close (s : St) (p : Nat) : Safe s (close s p) := by
  cases hp : s.pools[p]? with
  | none => rw [close_none hp]; exact Safe.refl s
  | some pl =>
    rw [close_eq hp]
    exact iteInduction (fun _ => Safe.refl s) fun _ =>
      safe_set hp (ext_closeConns _ _) (fun _ => rfl) (fun h => poolOK_nil rfl h.2.2.1)

theorem safe_setIsSlave (s : St) (p : Nat) (b : Bool) : Safe s (setIsSlave s p b) := by
  cases hp : s.pools[p]? with
  | none => rw [setIsSlave_none hp]; exact Safe.refl s
  | some pl =>
    rw [setIsSlave_eq hp]
    refine iteInduction (fun _ => Safe.refl s) fun _ => iteInduction (fun hc => ?_) fun _ => ?_
    · exact safe_set hp (Ext.refl _) id (fun h => poolOK_nil (h.2.2.2 hc) h.2.2.1)
    · exact safe_set hp (ext_closeConns _ _) id (fun h => poolOK_nil rfl h.2.2.1)

theorem safe_get (s : St) (p : Nat) : Safe s (get s p).1 := by
  have h := get_spec s p
  generalize get s p = g at h ⊢
  cases h with
  | refused _ => exact Safe.refl s
  | reused pl hp hcl hfull front c dead ha ho hd =>
    refine safe_set hp (Ext.refl _) id (fun h => poolOK_sub h hcl ⟨fun x hx => ?_, by simp [ha]⟩)
    rw [ha]; rcases List.mem_cons.mp hx with h | h <;> simp [h]
  | failed pl hp hcl hk hd => exact safe_set hp (Ext.refl _) id (fun h => poolOK_sub h hcl (kept_sub pl))
  | dialled pl hp hcl hk hd =>
    refine safe_set hp (ext_append _ _) id (fun h => ?_)
    have hk' := poolOK_ext (poolOK_sub h hcl (kept_sub pl)) (ext_append s.conns
      { pool := p, opened := true, slave := pl.isSlave }) (s.pools.set p { pl with active := s.conns.length :: kept pl })
    refine ⟨fun c hc => ?_, kept_room pl, hk'.2.2.1, fun hc => nomatch hcl.symm.trans hc⟩
    rcases List.mem_cons.mp hc with h | h
    · exact ⟨_, by rw [h]; exact List.getElem?_concat_length, rfl, rfl⟩
    · exact hk'.1 c h

theorem get_some_inv {s : St} (hI : Inv s) {p : Nat} {s' : St} {c : Nat} (h : get s p = (s', some c)) :
    ∃ x pl', s'.conns[c]? = some x ∧ x.pool = p ∧ s'.pools[p]? = some pl' ∧ x.slave = pl'.isSlave := by
  have hs := get_spec s p
  rw [h] at hs
  cases hs with
  | reused pl hp hcl hfull front c dead ha ho hd =>
    obtain ⟨x, hx, hxp, hxs⟩ := (hI p pl hp).1 c (by simp [ha])
    exact ⟨x, { pl with active := c :: front }, hx, hxp, getElem?_set_pool_self hp _, hxs⟩
  | dialled pl hp hcl hk hd =>
    exact ⟨_, { pl with active := s.conns.length :: kept pl }, List.getElem?_concat_length, rfl,
      getElem?_set_pool_self hp _, rfl⟩

theorem banFail_order (pl : Pool) : (banFail pl).order = min (pl.order + 1) 5 := by
  show (if pl.order ≥ 5 then 5 else pl.order + 1) = _
  split
  · next h => exact (Nat.min_eq_right (Nat.le_succ_of_le h)).symm
  · next h => exact (Nat.min_eq_left (Nat.not_le.mp h)).symm

/-- the state in which `getConn` calls `Get`: a replica that is picked up again has its flag cleared -/
def preGet (s : St) (r : Bool) : St :=
  if routePool s r = 1 then updPool s 1 (fun pl => { pl with flag := false }) else s

theorem getConn_eq (s : St) (r : Bool) : getConn s r =
    match get (preGet s r) (routePool s r) with
    | (u, none) => (updPool u (routePool s r) banFail, none, decide (routePool s r = 1))
    | (u, some c) => (updPool u (routePool s r) (fun pl => { pl with order := 0 }), some c, false) := rfl

theorem preGet_conns (s : St) (r : Bool) : (preGet s r).conns = s.conns := by
  unfold preGet; split
  · exact updPool_conns _ _ _
  · rfl

theorem getConn_out (s : St) (r : Bool) :
    (∀ c, (getConn s r).2.1 = some c → isOpen (getConn s r).1.conns c = true) ∧
    ((getConn s r).2.1 = none → (getConn s r).1.conns = s.conns) := by
  rw [getConn_eq]
  cases hg : get (preGet s r) (routePool s r) with
  | mk u o =>
    cases o with
    | none =>
      exact ⟨fun _ h => (nomatch h), fun _ => (updPool_conns _ _ _).trans (((get_out hg).2 rfl).trans (preGet_conns s r))⟩
    | some c =>
      refine ⟨fun c' h => ?_, fun h => nomatch h⟩
      show isOpen (updPool u _ _).conns c' = true
      rw [updPool_conns]; exact (get_out hg).1 c' h

theorem safe_getConn (s : St) (r : Bool) : Safe s (getConn s r).1 := by
  have h0 : Safe s (preGet s r) := by
    unfold preGet; split
    · exact safe_updPool s 1 _ (fun _ => ⟨rfl, rfl, rfl, rfl, id⟩)
    · exact Safe.refl s
  have h1 := h0.trans (safe_get (preGet s r) (routePool s r))
  rw [getConn_eq]
  generalize get (preGet s r) (routePool s r) = g at h1 ⊢
  obtain ⟨u, o⟩ := g
  cases o with
  | none =>
    exact h1.trans (safe_updPool u _ banFail (fun pl => ⟨rfl, rfl, rfl, rfl, fun _ => banFail_order pl ▸ Nat.min_le_right _ _⟩))
  | some c =>
    exact h1.trans (safe_updPool u _ (fun pl => { pl with order := 0 }) (fun _ => ⟨rfl, rfl, rfl, rfl, fun _ => Nat.zero_le _⟩))

theorem safe_request (s : St) (r : Bool) : Safe s (request s r).1 := by
  obtain ⟨t, ht, h⟩ := request_spec s r
  rw [h]; dsimp only
  rcases ht with rfl | ⟨rfl, _⟩
  · exact safe_getConn _ r
  · exact (safe_getConn s r).trans (safe_getConn _ r)

theorem safe_lose (s : St) (c : Nat) : Safe s (lose s c) := safe_conns s (ext_close _ c)

theorem safe_serve (s : St) (r : Bool) : Safe s (serve s r).1 := by
  rcases serve_spec s r with ⟨c, _, h | h⟩ | ⟨_, h⟩ <;> rw [h] <;> dsimp only
  · exact safe_request s r
  · exact (safe_request s r).trans (safe_lose _ c)
  · exact safe_request s r

theorem safe_step (s : St) (op : Op) : Safe s (step s op) := by
  cases op with
  | get p => exact safe_get s p
  | lose c => exact safe_lose s c
  | vanish c => exact safe_conns s (ext_modify _ c _ (fun _ => ⟨rfl, rfl, id⟩))
  | setDial p ok => rw [step, setDial_eq]; exact safe_updPool s p _ (fun _ => ⟨rfl, rfl, rfl, rfl, id⟩)
  | expire p => rw [step, expire_eq]; exact safe_updPool s p _ (fun _ => ⟨rfl, rfl, rfl, rfl, id⟩)
  | release p => exact safe_release s p
  | close p => exact safe_close s p
  | setSlave p b => exact safe_setIsSlave s p b
  | req r => exact safe_serve s r

theorem safe_run (s : St) (ops : List Op) : Safe s (run s ops) :=
  List.foldlRecOn ops step (motive := Safe s) (Safe.refl s) (fun t h op _ => h.trans (safe_step t op))

theorem inv_step {s : St} (hI : Inv s) (op : Op) : Inv (step s op) := (safe_step s op).2 hI

theorem inv_run {s : St} (hI : Inv s) (ops : List Op) : Inv (run s ops) := (safe_run s ops).2 hI

theorem inv_init (m : Nat) (rep : Bool) : Inv (init m rep) := by
  intro p pl hp
  have hmem := List.mem_of_getElem? hp
  have : pl.active = [] ∧ pl.order = 0 := by cases rep <;> simp [init] at hmem <;> rcases hmem with rfl | rfl <;> exact ⟨rfl, rfl⟩
  exact poolOK_nil this.1 (this.2 ▸ Nat.zero_le 5)

end RcVerif.PoolBan
