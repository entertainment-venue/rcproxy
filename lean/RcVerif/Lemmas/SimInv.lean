import RcVerif.Lemmas.SimSteps
import RcVerif.Lemmas.MergeBasic
/-
  The client-side invariant of the event-loop machine and its preservation by every event
  (`good_step`, `good_run`): per client, the delivered replies are request numbers 0,1,2,.. in order,
  the queue holds the next consecutive numbers, every queued request belongs to that client, the
  bytes written are exactly the delivered replies, and the head of an open client's queue is never
  a completed request.

  `ClientOK.*` say what one connection's record goes through (close, flush, push, answer, a change of the stored
  requests); `cinvx_*` lift that to the machine; `good_micro` checks every micro-step.
-/
open RcVerif RcVerif.Sim RcVerif.Merge RcVerif.Lemmas.SimSteps RcVerif.Lemmas.MergeBasic

namespace RcVerif.Lemmas.SimInv

def numOf (msgs : List Req) (i : Nat) : Nat := ((msgs[i]?).map (·.num)).getD 0

def headNotDone (msgs : List Req) : List Nat → Prop
  | [] => True
  | i :: _ => ∀ r, msgs[i]? = some r → r.m.done = false

structure ClientOK (msgs : List Req) (c : Nat) (cl : Client) (needHead : Bool) : Prop where
  own : ∀ i ∈ cl.queue, ∃ r, msgs[i]? = some r ∧ r.owner = c
  nums : ∃ k, cl.log.map (·.1) = List.range k ∧ cl.queue.map (numOf msgs) = List.range' k cl.queue.length ∧
           k + cl.queue.length ≤ cl.decoded ∧ (cl.opened = true → k + cl.queue.length = cl.decoded)
  out : cl.out = (cl.log.map (·.2)).flatten
  head : needHead = true → cl.opened = true → headNotDone msgs cl.queue

theorem numOf_eq {msgs : List Req} {i : Nat} {r : Req} (h : msgs[i]? = some r) : numOf msgs i = r.num := by
  unfold numOf; rw [h]; rfl

/-- the requests in the queue may change as long as each keeps its owner and number and, where the head of the
    queue matters, is not completed by the change -/
theorem ClientOK.of_msgs {msgs msgs' : List Req} {c : Nat} {cl : Client} {b : Bool} (h : ClientOK msgs c cl b)
    (hm : ∀ i ∈ cl.queue, ∀ r, msgs[i]? = some r → ∃ r', msgs'[i]? = some r' ∧ r'.owner = r.owner ∧ r'.num = r.num ∧
      (b = true → r'.m.done = true → r.m.done = true)) : ClientOK msgs' c cl b := by
  refine ⟨fun i hi => ?_, ?_, h.out, fun hb hop => ?_⟩
  · obtain ⟨r, hr, ho⟩ := h.own i hi
    obtain ⟨r', hr', ho', _⟩ := hm i hi r hr
    exact ⟨r', hr', ho'.trans ho⟩
  · obtain ⟨k, h1, h2, h3⟩ := h.nums
    refine ⟨k, h1, ?_, h3⟩
    rw [← h2]
    refine List.map_congr_left fun i hi => ?_
    obtain ⟨r, hr, _⟩ := h.own i hi
    obtain ⟨r', hr', _, hn, _⟩ := hm i hi r hr
    rw [numOf_eq hr, numOf_eq hr', hn]
  · have hh := h.head hb hop
    cases hq : cl.queue with
    | nil => trivial
    | cons i rest =>
      rw [hq] at hh
      intro r'' hr''
      have hi : i ∈ cl.queue := hq ▸ List.mem_cons_self
      obtain ⟨r, hr, _⟩ := h.own i hi
      obtain ⟨r', hr', _, _, hd⟩ := hm i hi r hr
      cases hr'.symm.trans hr''
      exact Bool.eq_false_iff.mpr fun hd' => Bool.eq_false_iff.mp (hh r hr) (hd hb hd')

theorem ClientOK.append {msgs : List Req} {c : Nat} {cl : Client} {b : Bool} (h : ClientOK msgs c cl b) (r : Req) :
    ClientOK (msgs ++ [r]) c cl b :=
  h.of_msgs fun i _ r0 hr0 => ⟨r0, getElem?_append_old msgs r r0 i hr0, rfl, rfl, fun _ => id⟩

theorem ClientOK.flag {msgs : List Req} {c : Nat} {cl : Client} {b b' : Bool} (h : ClientOK msgs c cl b)
    (hb : b' = true → b = true) : ClientOK msgs c cl b' :=
  ⟨h.own, h.nums, h.out, fun hn => h.head (hb hn)⟩

theorem ClientOK.close {msgs : List Req} {c : Nat} {cl : Client} {b : Bool} (h : ClientOK msgs c cl b) :
    ClientOK msgs c { cl with opened := false, closing := false, queue := [], leftover := [] } true := by
  obtain ⟨k, h1, _, h3, _⟩ := h.nums
  exact ⟨List.forall_mem_nil _, ⟨k, h1, rfl, Nat.le_trans (Nat.le_add_right _ _) h3, nofun⟩, h.out, fun _ _ => trivial⟩

theorem donePrefix_eq_nil_iff (msgs : List Req) (q : List Nat) : donePrefix msgs q = [] ↔ headNotDone msgs q := by
  cases q with
  | nil => exact ⟨fun _ => trivial, fun _ => rfl⟩
  | cons i rest =>
    unfold donePrefix
    cases hr : msgs[i]? with
    | none => exact ⟨fun _ r' h => (nomatch hr.symm.trans h), fun _ => rfl⟩
    | some r =>
      dsimp only
      cases hd : r.m.done with
      | false => exact ⟨fun _ r' h => by cases hr.symm.trans h; exact hd, fun _ => rfl⟩
      | true => exact ⟨fun h => (nomatch h), fun h => (nomatch (h r hr).symm.trans hd)⟩

theorem donePrefix_spec (msgs : List Req) (q : List Nat) :
    ∃ rest, q = donePrefix msgs q ++ rest ∧
      (∀ i ∈ donePrefix msgs q, ∃ r, msgs[i]? = some r ∧ r.m.done = true) ∧ headNotDone msgs rest := by
  induction q with
  | nil => exact ⟨[], rfl, List.forall_mem_nil _, trivial⟩
  | cons i q ih =>
    obtain ⟨rest, h1, h2, h3⟩ := ih
    unfold donePrefix
    split
    · rename_i r hr
      split
      · rename_i hd
        exact ⟨rest, congrArg (i :: ·) h1, fun j hj => (List.mem_cons.mp hj).elim (fun e => e ▸ ⟨r, hr, hd⟩) (h2 j), h3⟩
      · rename_i hd
        exact ⟨i :: q, rfl, List.forall_mem_nil _, fun r' hr' => by rw [hr] at hr'; cases hr'; exact Bool.eq_false_iff.mpr hd⟩
    · rename_i hn
      exact ⟨i :: q, rfl, List.forall_mem_nil _, fun r' hr' => by rw [hn] at hr'; cases hr'⟩

theorem replies_fst (msgs : List Req) (ds : List Nat) (h : ∀ i ∈ ds, ∃ r, msgs[i]? = some r) :
    (ds.filterMap (fun i => (msgs[i]?).map (fun r => (r.num, r.m.rspBody)))).map (·.1) = ds.map (numOf msgs) := by
  induction ds with
  | nil => rfl
  | cons i ds ih =>
    obtain ⟨r, hr⟩ := h i List.mem_cons_self
    simp only [List.filterMap_cons, hr, Option.map_some, List.map_cons, numOf_eq hr,
      ih fun j hj => h j (List.mem_cons_of_mem _ hj)]

/-- numbers `k, k+1, ..` split at any point: the first part continues `0 .. k-1` -/
theorem range'_split {f : Nat → Nat} {k : Nat} {ds rest : List Nat}
    (h : (ds ++ rest).map f = List.range' k (ds ++ rest).length) :
    List.range k ++ ds.map f = List.range (k + ds.length) ∧ rest.map f = List.range' (k + ds.length) rest.length := by
  rw [List.map_append, List.length_append, ← List.range'_append_1] at h
  obtain ⟨h1, h2⟩ := List.append_inj h (by rw [List.length_map, List.length_range'])
  refine ⟨?_, h2⟩
  rw [h1, List.range_eq_range', List.range_eq_range', ← List.range'_append_1, Nat.zero_add]

theorem ClientOK.flush {s : State} {c : Nat} {cl : Client} {b : Bool} (h : ClientOK s.msgs c cl b) :
    ClientOK s.msgs c (flushUpd s cl cl) true := by
  obtain ⟨rest, hq, hdone, hhead⟩ := donePrefix_spec s.msgs cl.queue
  have hdrop : cl.queue.drop (donePrefix s.msgs cl.queue).length = rest :=
    (congrArg (List.drop _) hq).trans List.drop_left
  obtain ⟨k, h1, h2, h3, h4⟩ := h.nums
  unfold flushUpd
  generalize donePrefix s.msgs cl.queue = ds at *
  rw [hdrop]
  rw [hq] at h2
  obtain ⟨g1, g2⟩ := range'_split h2
  have hlen : k + ds.length + rest.length = k + cl.queue.length := by rw [hq, List.length_append, Nat.add_assoc]
  refine ⟨fun i hi => h.own i (hq ▸ List.mem_append_right _ hi),
    ⟨k + ds.length, ?_, g2, hlen ▸ h3, fun ho => hlen ▸ h4 ho⟩, ?_, fun _ _ => hhead⟩
  · rw [List.map_append, h1, replies_fst s.msgs ds fun i hi => (hdone i hi).imp fun _ => And.left, g1]
  · rw [List.map_append, List.flatten_append, h.out]

theorem ClientOK.push {msgs : List Req} {c : Nat} {cl : Client} {r : Req} (h : ClientOK msgs c cl true)
    (hop : cl.opened = true) (ho : r.owner = c) (hn : r.num = cl.decoded) (hhead : cl.queue = [] → r.m.done = false) :
    ClientOK (msgs ++ [r]) c { cl with decoded := cl.decoded + 1, queue := cl.queue ++ [msgs.length] } true := by
  have h' := h.append r
  obtain ⟨k, h1, h2, _, h4⟩ := h'.nums
  have hnew : (msgs ++ [r])[msgs.length]? = some r := List.getElem?_concat_length
  have hlen : k + (cl.queue ++ [msgs.length]).length = cl.decoded + 1 := by
    rw [List.length_append, ← Nat.add_assoc, h4 hop]; rfl
  refine ⟨fun i hi => ?_, ⟨k, h1, ?_, Nat.le_of_eq hlen, fun _ => hlen⟩, h'.out, fun _ _ => ?_⟩
  · rcases List.mem_append.mp hi with hi | hi
    · exact h'.own i hi
    · rw [List.mem_singleton.mp hi]; exact ⟨r, hnew, ho⟩
  · show (cl.queue ++ [msgs.length]).map _ = List.range' k (cl.queue ++ [msgs.length]).length
    rw [List.map_append, h2, List.length_append, List.length_singleton, List.range'_1_concat, List.map_singleton,
      numOf_eq hnew, hn, ← h4 hop]
  · have hh := h'.head rfl hop
    show headNotDone _ (cl.queue ++ _)
    cases hq : cl.queue with
    | nil => intro r' hr'; cases hnew.symm.trans hr'; exact hhead hq
    | cons i rest => rw [hq] at hh; exact hh

theorem ClientOK.answer {msgs : List Req} {c : Nat} {cl : Client} (h : ClientOK msgs c cl true) (hop : cl.opened = true)
    (hq : cl.queue = []) (out : Bytes) :
    ClientOK msgs c { cl with decoded := cl.decoded + 1, out := cl.out ++ out, log := cl.log ++ [(cl.decoded, out)] } true := by
  obtain ⟨k, h1, _, _, h4⟩ := h.nums
  have hk : k = cl.decoded := by have := h4 hop; rwa [hq] at this
  refine ⟨h.own, ⟨k + 1, ?_, ?_, ?_, fun _ => ?_⟩, ?_, h.head⟩
  · show (cl.log ++ [(cl.decoded, out)]).map (·.1) = _
    rw [List.map_append, h1, List.range_succ, hk]; rfl
  · show cl.queue.map _ = List.range' (k + 1) cl.queue.length
    rw [hq]; rfl
  · show k + 1 + cl.queue.length ≤ cl.decoded + 1
    rw [hq, hk]; exact Nat.le_refl _
  · show k + 1 + cl.queue.length = cl.decoded + 1
    rw [hq, hk]; rfl
  · show cl.out ++ out = ((cl.log ++ [(cl.decoded, out)]).map (·.2)).flatten
    rw [List.map_append, List.flatten_append, h.out]
    exact congrArg _ (List.append_nil out).symm

/-- the client-side invariant; `except` names a client whose head-of-queue condition is temporarily waived -/
def CInvX (s : State) (except : Option Nat) : Prop :=
  ∀ c cl, s.clients[c]? = some cl → ClientOK s.msgs c cl (decide (some c ≠ except))

abbrev CInv (s : State) : Prop := CInvX s none

theorem cinvx_of_same {s s' : State} {o : Option Nat} (h : SameCM s s') (hi : CInvX s o) : CInvX s' o := by
  intro c cl hcl
  rw [h.1] at hcl
  rw [h.2]
  exact hi c cl hcl

/-- with at most `c` waived, every other connection satisfies the full condition -/
theorem ClientOK.other {msgs : List Req} {c c' : Nat} {cl : Client} {o : Option Nat} (ho : o = none ∨ o = some c)
    (hne : c' ≠ c) (h : ClientOK msgs c' cl (decide (some c' ≠ o))) : ClientOK msgs c' cl (decide (some c' ≠ none)) :=
  h.flag fun _ => by
    rcases ho with rfl | rfl
    · rfl
    · exact decide_eq_true fun e => hne (Option.some.inj e)

/-- the waiver ends when the waived connection's head is in order again -/
theorem cinvx_full (s : State) (c : Nat) (o : Option Nat) (h : CInvX s o) (ho : o = none ∨ o = some c)
    (hc : ∀ cl, s.clients[c]? = some cl → cl.opened = true → headNotDone s.msgs cl.queue) : CInvX s none := by
  intro c' cl hcl
  by_cases hcc : c' = c
  · subst hcc
    exact ⟨(h c' cl hcl).own, (h c' cl hcl).nums, (h c' cl hcl).out, fun _ => hc cl hcl⟩
  · exact (h c' cl hcl).other ho hcc

/-- a step that touches connection `c` only and leaves it in order -/
theorem cinvx_updClient (s : State) (c : Nat) (f : Client → Client) (o : Option Nat) (h : CInvX s o)
    (ho : o = none ∨ o = some c) (hnew : ∀ cl, s.clients[c]? = some cl → ClientOK s.msgs c (f cl) true) :
    CInvX (s.updClient c f) none :=
  forall_setAt s.clients c f (fun c' cl hne hcl => (h c' cl hcl).other ho hne) hnew

theorem cinvx_closeClient (s : State) (c : Nat) (o : Option Nat) (h : CInvX s o) (ho : o = none ∨ o = some c) :
    CInvX (closeClient s c) none :=
  cinvx_updClient s c _ o h ho fun cl hcl => (h c cl hcl).close

theorem cinvx_flushClient (s : State) (c : Nat) (o : Option Nat) (h : CInvX s o) (ho : o = none ∨ o = some c) :
    CInvX (flushClient s c) none := by
  have hupd : ∀ cl, s.clients[c]? = some cl → CInvX (s.updClient c (flushUpd s cl)) none := fun cl hcl =>
    cinvx_updClient s c _ o h ho fun cl' hcl' => by cases hcl.symm.trans hcl'; exact (h c cl hcl).flush
  refine flushClient_cases (P := fun x => CInvX x none) s c (fun hidle => cinvx_full s c o h ho fun cl hcl hop => ?_)
    (fun cl hcl _ _ => hupd cl hcl) (fun cl hcl _ _ => cinvx_closeClient _ c none (hupd cl hcl) (.inl rfl))
  exact (donePrefix_eq_nil_iff _ _).mp (hidle cl hcl hop)

theorem cinvx_deliver (s : State) (c : Nat) (o : Option Nat) (h : CInvX s o) (ho : o = none ∨ o = some c) :
    CInvX (deliver s c) none :=
  deliver_cases (P := fun x => CInvX x none) s c (cinvx_closeClient s c o h ho) (cinvx_flushClient s c o h ho)

/-- a stored request changes, keeping owner and number; it may become complete only if its owner's head condition
    is waived -/
theorem cinvx_updReq (s : State) (mi : Nat) (f : Req → Req) (o : Option Nat) (r : Req) (hr : s.msgs[mi]? = some r)
    (hf : (f r).owner = r.owner ∧ (f r).num = r.num) (ho : o = some r.owner ∨ ((f r).m.done = true → r.m.done = true))
    (h : CInvX s o) : CInvX (s.updReq mi f) o := by
  intro c cl hc
  refine (h c cl hc).of_msgs fun i hi r0 hr0 => ?_
  by_cases him : i = mi
  · subst him
    cases hr.symm.trans hr0
    refine ⟨f r, msgs_upd_same s i f r hr, hf.1, hf.2, fun hb => ?_⟩
    rcases ho with rfl | ho
    · obtain ⟨r1, hr1, ho1⟩ := (h c cl hc).own i hi
      cases hr.symm.trans hr1
      exact absurd (congrArg some ho1.symm) (of_decide_eq_true hb)
    · exact ho
  · exact ⟨r0, (msgs_upd_other s mi i f him).trans hr0, rfl, rfl, fun _ => id⟩

theorem cinvx_push (s : State) (c : Nat) (cl : Client) (r : Req) (h : CInvX s none) (hcl : s.clients[c]? = some cl)
    (hop : cl.opened = true) (hr : r.owner = c ∧ r.num = cl.decoded) (hhead : cl.queue = [] → r.m.done = false) :
    CInvX (pushReq s c r) none :=
  cinvx_updClient { s with msgs := s.msgs ++ [r] } c _ none (fun c' cl' hc' => (h c' cl' hc').append r) (.inl rfl)
    fun cl' hcl' => by cases hcl.symm.trans hcl'; exact (h c cl hcl).push hop hr.1 hr.2 hhead

def OpenIn (s : State) (c : Nat) : Prop := ∀ cl, s.clients[c]? = some cl → cl.opened = true

theorem cinvx_answerLocal (s : State) (c : Nat) (m : MMsg) (out : Bytes) (h : CInvX s none) (hopen : OpenIn s c) :
    CInvX (answerLocal s c m out) none :=
  answerLocal_cases (P := fun x => CInvX x none) s c m out h
    (fun cl hcl hq => cinvx_updClient s c _ none h (.inl rfl) fun cl' hcl' => by
      cases hcl.symm.trans hcl'; exact (h c cl hcl).answer (hopen cl hcl) hq out)
    (fun cl hcl hq => cinvx_push s c cl _ h hcl (hopen cl hcl) ⟨rfl, rfl⟩ fun he => absurd he hq)

theorem cinvx_acceptReq (s : State) (c : Nat) (m : MMsg) (h : CInvX s none) (hopen : OpenIn s c) :
    CInvX (acceptReq s c m).1 none :=
  acceptReq_cases (P := fun p => CInvX p.1 none) s c m h fun cl hcl =>
    cinvx_push s c cl _ h hcl (hopen cl hcl) ⟨rfl, rfl⟩ fun _ => rfl

/-- the inductive invariant of the whole machine: a state outside the modelled domain (flagged), or the
    client-side invariant -/
def Good (s : State) : Prop := s.flag.isSome = true ∨ CInvX s none

section
variable (T : Tables) (S : Strs) (cfg : Cfg) (slotFn : Bytes → Nat)

theorem good_forward (s : State) (c : Nat) (cm : CDecode.CMsg) (ch : ReqChoice)
    (h : CInvX s none) (ho : OpenIn s c) : Good (forward T S cfg s c cm ch) := by
  have hsame := same_resolve T S cfg cm.type s ch.visit []
  have h1 := cinvx_of_same hsame h
  have ho1 : OpenIn _ c := fun cl hcl => ho cl (hsame.1 ▸ hcl)
  exact forward_cases T S cfg s c cm ch (.inl (fail_flag s _)) (fun e => .inr (cinvx_answerLocal _ c _ e h1 ho1)) .inl
    (.inl (fail_flag _ _)) (.inr (cinvx_of_same (foldl_enqueue_same _ _ _) (cinvx_acceptReq _ c _ h1 ho1)))

theorem good_of_cinv {s : State} (h : CInvX s none) : Good s := Or.inr h

theorem setFrag_done (m : MMsg) (slot : Nat) (f : MFrag → MFrag) : (setFrag m slot f).done = m.done := rfl

/-- after any change of request `mi` that keeps owner and number, only its owner's head condition is open -/
theorem cinvx_updReq_own (s : State) (mi : Nat) (f : Req → Req) (r : Req) (hr : s.msgs[mi]? = some r)
    (hf : (f r).owner = r.owner ∧ (f r).num = r.num) (h : CInvX s none) : CInvX (s.updReq mi f) (some r.owner) :=
  cinvx_updReq s mi f _ r hr hf (.inl rfl) fun c cl hc => (h c cl hc).flag fun _ => rfl

theorem good_onMoved (s : State) (mi slot : Nat) (isAsk : Bool) (addr : Bytes)
    (h : CInvX s none) : Good (onMoved S cfg s mi slot isAsk addr) := by
  -- the redirect counter goes up: `done` is untouched
  have h1 : ∀ r, s.msgs[mi]? = some r → CInvX (bumpRed s mi slot) none := fun r hr =>
    cinvx_updReq s mi _ none r hr ⟨rfl, rfl⟩ (.inr id) h
  refine onMoved_cases S cfg s mi slot isAsk addr (fun _ => .inl (fail_flag s _)) (fun r e hr => .inr ?_)
    (fun r p hr _ _ => .inr (cinvx_of_same (same_resendTo S cfg _ mi slot isAsk p) (h1 r hr)))
  exact cinvx_flushClient _ _ _ (cinvx_updReq_own _ mi (fun r => { r with m := failedMsg e r.m slot }) _
    (msgs_bumpRed s mi slot r hr) ⟨rfl, rfl⟩ (h1 r hr)) (.inr rfl)

theorem good_onFragReply (s : State) (mi slot rtype : Nat)
    (body : Bytes) (h : CInvX s none) : Good (onFragReply T S cfg slotFn s mi slot rtype body).1 := by
  -- any signal but `ready` leaves `done` as it was
  have hkeep : ∀ r m' sig, s.msgs[mi]? = some r → onReply T S.merge slotFn cfg.limit r.m slot rtype body = (m', sig) →
      sig ≠ .ready → CInvX (s.updReq mi fun r => { r with m := m' }) none := fun r m' sig hr hres hs =>
    cinvx_updReq s mi _ none r hr ⟨rfl, rfl⟩
      (.inr ((hres ▸ (onReply_ok T S.merge slotFn cfg.limit r.m slot rtype body).keep) hs).symm.trans) h
  refine onFragReply_cases T S cfg slotFn s mi slot rtype body (.inl (fail_flag s _)) (fun _ _ _ _ _ _ => .inl (fail_flag _ _))
    (fun r m' sig hr hres hs => .inr (hkeep r m' sig hr hres ?_))
    (fun r m' hr hres => good_onMoved S cfg _ mi slot _ _ (hkeep r m' _ hr hres nofun))
    (fun r m' hr _ => .inr (cinvx_deliver _ _ _ (cinvx_updReq_own s mi _ r hr ⟨rfl, rfl⟩ h) (.inr rfl)))
  rcases hs with rfl | rfl <;> nofun

theorem cinvx_failSteps (g : MMsg → Nat → MMsg → MMsg) (refs : List FragRef) (s : State) (h : CInvX s none) :
    CInvX (refs.foldl (failStep g) s) none :=
  List.foldlRecOn refs (failStep g) (motive := fun x => CInvX x none) h fun s h f _ =>
    failStep_cases (P := fun x => CInvX x none) g s f h fun mi _ r _ hr =>
      cinvx_flushClient _ _ _ (cinvx_updReq_own s mi _ r hr ⟨rfl, rfl⟩ h) (.inr rfl)

theorem cinvx_backendClose (s : State) (b : Nat) (h : CInvX s none) : CInvX (backendClose S s b) none :=
  backendClose_cases (P := fun x => CInvX x none) S s b h fun _ _ _ =>
    cinvx_of_same ((foldl_dropTimeout_same _ _).trans (same_updBackend _ b _)) (cinvx_failSteps (lostMsg S) _ s h)

theorem cinvx_connect (s : State) (admitted : Bool) (h : CInvX s none) :
    CInvX { s with clients := s.clients ++ [{ opened := admitted }] } none :=
  forall_append_new s.clients _ h
    ⟨List.forall_mem_nil _, ⟨0, rfl, rfl, Nat.zero_le _, fun _ => rfl⟩, rfl, fun _ _ => trivial⟩

theorem good_micro (s s' : State) (hf : s.flag = none)
    (hm : Micro T S cfg slotFn s s') (hg : Good s) : Good s' := by
  have h : CInvX s none := hg.resolve_left (by simp [hf])
  have hsame : ∀ s', SameCM s s' → CInvX s' none := fun _ hs => cinvx_of_same hs h
  -- a change of connection fields the invariant does not look at
  have hkeep : ∀ c f, (∀ cl b, ClientOK s.msgs c cl b → ClientOK s.msgs c (f cl) b) → Good (s.updClient c f) :=
    fun c f hf => .inr (cinvx_updClient s c f none h (.inl rfl) fun cl hcl => hf cl _ (h c cl hcl))
  cases hm with
  | connect a => exact .inr (cinvx_connect s a h)
  | fail w => exact .inl (fail_flag s w)
  | closeClient c => exact .inr (cinvx_closeClient s c none h (.inl rfl))
  | leftover c v => exact hkeep c _ fun _ _ k => ⟨k.own, k.nums, k.out, k.head⟩
  | closing c => exact hkeep c _ fun _ _ k => ⟨k.own, k.nums, k.out, k.head⟩
  | request c cm ch cl hc ho =>
    have hop : OpenIn s c := fun cl' hc' => by cases hc.symm.trans hc'; exact ho
    exact onRequest_cases T S cfg s c cm ch (fun out => .inr (cinvx_answerLocal s c _ out h hop))
      (good_forward T S cfg s c cm ch h hop)
  | leftoverB b v => exact .inr (hsame _ (same_updBackend s b _))
  | initDone b => exact .inr (hsame _ (same_updBackend s b _))
  | pop b x f inQ' => exact .inr (hsame _ ((same_updBackend s b _).trans (same_dropTimeout _ f)))
  | reply b x mi slot inQ' rtype body =>
    exact good_onFragReply T S cfg slotFn _ mi slot rtype body
      (hsame _ ((same_updBackend s b _).trans (same_dropTimeout _ _)))
  | writeSignal b => exact .inr (hsame _ (same_writeSignal S cfg s b))
  | backendClose b => exact .inr (cinvx_backendClose S s b h)
  | clearTasks => exact .inr (hsame _ ⟨rfl, rfl⟩)
  | expire n =>
    rw [expire_eq]
    exact .inr (cinvx_of_same (s := List.foldl _ s _) ⟨rfl, rfl⟩ (cinvx_failSteps _ _ s h))
  | poolRemove p => exact .inr (hsame _ (same_poolRemove s p))

end

/-- **the client-side invariant is inductive**: one event of any kind, with any choices -/
theorem good_step (T : Tables) (S : Strs) (cfg : Cfg) (slotFn : Bytes → Nat) (s : State) (e : Event) (h : Good s) :
    Good (step T S cfg slotFn s e) :=
  (steps_step s e).inv (good_micro T S cfg slotFn) h

theorem good_run (T : Tables) (S : Strs) (cfg : Cfg) (slotFn : Bytes → Nat) (es : List Event) (s : State) (h : Good s) :
    Good (run T S cfg slotFn s es) :=
  (steps_run es s).inv (good_micro T S cfg slotFn) h

theorem good_init (S : Strs) (cfg : Cfg) (pools : List (Bytes × Bool)) (table : List (Nat × Nat × RSet)) :
    Good (init S cfg pools table) :=
  .inr (init_ind S cfg pools table (fun _ _ hc => nomatch hc) fun s p => cinvx_of_same (same_poolGet S cfg s p))

end RcVerif.Lemmas.SimInv
