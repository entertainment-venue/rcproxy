import RcVerif.Gen.Tables
import RcVerif.Model.Basic
import RcVerif.Model.Hash
import RcVerif.Model.Resp
import RcVerif.Model.Commands
import RcVerif.Model.CDecode
import RcVerif.Spec.KeySlot
import RcVerif.Model.PoolBan
import RcVerif.Lemmas.PoolBan
import RcVerif.Props.PoolHist
import RcVerif.Model.ConnIn
import RcVerif.Lemmas.ConnIn
import RcVerif.Props.C08Conn
import RcVerif.Props.PoolAgree
import RcVerif.Props.C01
import RcVerif.Props.C02
import RcVerif.Props.C03
import RcVerif.Props.C04
import RcVerif.Props.C04Hist
import RcVerif.Props.C05
import RcVerif.Props.C06
import RcVerif.Props.C07
import RcVerif.Props.C08
import RcVerif.Props.C09
import RcVerif.Props.C10
import RcVerif.Props.C11
import RcVerif.Props.C12
import RcVerif.Props.C13
import RcVerif.Props.C13Bound
import RcVerif.Props.C14
import RcVerif.Props.C14Hist
import RcVerif.Props.C15
import RcVerif.Props.C16
import RcVerif.Props.C17
import RcVerif.Props.C18
import RcVerif.Props.C19
import RcVerif.Props.C20
